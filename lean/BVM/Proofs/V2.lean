/-
  Proofs/V2.lean — the barectf 2 → 3 conversion on abstract field types: a field type written in the
  barectf 2 dialect (`r2`) converts to the same field type written in the barectf 3 dialect (`r3`).
-/
import BVM.Model.V2
import BVM.Proofs.Comb
namespace BVM

/-! ### abstract field types expressible in the barectf 2 dialect -/

structure AInt where
  size : Int
  signed : Bool
  saySigned : Bool          -- `signed: false` written out
  align : Option Int
  base : Option String
  clock : Option String     -- `property-mappings` to a clock (used for clock inference, dropped from the type)
  encoding : Option String  -- accepted by barectf 2, without meaning for the binary format
deriving Repr

inductive AMember
  | implicit (label : String)
  | value (label : String) (v : Int)
  | range (label : String) (a b : Int)
deriving Repr

inductive AFt where
  | int (i : AInt)
  | enum (vt : AInt) (members : List AMember)
  | float (double : Bool) (align : Option Int)
  | str (encoding : Option String)
  | sarr (len : Int) (e : AFt)
  | darr (e : AFt)
  | struct (minAlign : Option Int) (fields : List (String × AFt))

def optE (k : String) (v : Option Y) : KVs := match v with | some y => [(k, y)] | none => []

/-- barectf 2 spelling of an integer field type -/
def AInt.r2 (i : AInt) : KVs :=
  [("class", .str "int"), ("size", .int i.size)] ++
  (if i.signed || i.saySigned then [("signed", .bool i.signed)] else []) ++
  optE "align" (i.align.map .int) ++ optE "base" (i.base.map .str) ++ optE "encoding" (i.encoding.map .str) ++
  optE "property-mappings" (i.clock.map fun c => .seq [.map [("type", .str "clock"), ("name", .str c), ("property", .str "value")]])

/-- barectf 3 spelling of the same integer field type -/
def AInt.r3 (i : AInt) : KVs :=
  [("class", .str (if i.signed then "sint" else "uint")), ("size", .int i.size)] ++
  optE "alignment" (i.align.map .int) ++ optE "preferred-display-base" (i.base.map .str)

def AMember.r2 : AMember → Y
  | .implicit l => .str l
  | .value l v => .map [("label", .str l), ("value", .int v)]
  | .range l a b => .map [("label", .str l), ("value", .seq [.int a, .int b])]

/-- value(s) of every member in order: an explicit value or range as written; a label alone takes the
    value following the previous member's (last) value, 0 for the first member -/
def memberVals : List AMember → Int → List (String × Y)
  | [], _ => []
  | .implicit l :: r, cur => (l, .int cur) :: memberVals r (cur + 1)
  | .value l v :: r, _ => (l, .int v) :: memberVals r (v + 1)
  | .range l a b :: r, _ => (l, .seq [.int a, .int b]) :: memberVals r (b + 1)

/-- barectf 3 mappings: label ↦ its values in order -/
def mappingsOf (ms : List AMember) : KVs := (memberVals ms 0).foldl pushLabel []

mutual
def AFt.r2 : AFt → Y
  | .int i => .map i.r2
  | .enum vt ms => .map [("class", .str "enum"), ("value-type", .map vt.r2), ("members", .seq (ms.map AMember.r2))]
  | .float dbl al => .map ([("class", .str "float"),
      ("size", .map [("exp", .int (if dbl then 11 else 8)), ("mant", .int (if dbl then 53 else 24))])] ++
      optE "align" (al.map .int))
  | .str enc => .map ([("class", .str "string")] ++ optE "encoding" (enc.map .str))
  | .sarr n e => .map [("class", .str "array"), ("length", .int n), ("element-type", e.r2)]
  | .darr e => .map [("class", .str "array"), ("length", .str "dynamic"), ("element-type", e.r2)]
  | .struct ma fs => .map ([("class", .str "struct")] ++ optE "min-align" (ma.map .int) ++ [("fields", .map (AFt.r2Fields fs))])
def AFt.r2Fields : List (String × AFt) → KVs
  | [] => []
  | (n, f) :: r => (n, f.r2) :: AFt.r2Fields r
end

mutual
def AFt.r3 : AFt → Y
  | .int i => .map i.r3
  | .enum vt ms => .map ([("class", .str (if vt.signed then "senum" else "uenum")), ("size", .int vt.size)] ++
      optE "alignment" (vt.align.map .int) ++ optE "preferred-display-base" (vt.base.map .str) ++
      [("mappings", .map (mappingsOf ms))])
  | .float dbl al => .map ([("class", .str "real"), ("size", .int (if dbl then 64 else 32))] ++ optE "alignment" (al.map .int))
  | .str _ => .map [("class", .str "string")]
  | .sarr n e => .map [("class", .str "static-array"), ("length", .int n), ("element-field-type", e.r3)]
  | .darr e => .map [("class", .str "dynamic-array"), ("element-field-type", e.r3)]
  | .struct ma fs => .map ([("class", .str "struct")] ++ optE "minimum-alignment" (ma.map .int) ++
      [("members", .seq (AFt.r3Members fs))])
def AFt.r3Members : List (String × AFt) → List Y
  | [] => []
  | (n, f) :: r => .map [(n, .map [("field-type", f.r3)])] :: AFt.r3Members r
end

mutual
/-- the fuel `convFt` needs: one unit per level of nesting; two for an enumeration, whose value type is converted by a
    nested call -/
def AFt.depth : AFt → Nat
  | .sarr _ e => e.depth + 1
  | .darr e => e.depth + 1
  | .struct _ fs => AFt.depthFields fs + 1
  | .enum _ _ => 2
  | _ => 1
def AFt.depthFields : List (String × AFt) → Nat
  | [] => 0
  | (_, f) :: r => max f.depth (AFt.depthFields r)
end

/-! ### a spelling is a chain `… ++ optE k o ++ …`

  The keys are literals; `renameProp`, `copyProp` and `kvSet` on a key not yet present all append an `optE`, so a
  conversion is computed by rewriting, whatever the options hold. -/

theorem optE_none (k : String) : optE k none = [] := rfl
theorem optE_some (k : String) (v : Y) : optE k (some v) = [(k, v)] := rfl

theorem kvGet_optE (k k' : String) (o : Option Y) : kvGet k (optE k' o) = if k' = k then o else none := by
  cases o with
  | none => simp only [optE, kvGet, ite_self]
  | some v => rfl

theorem kvErase_optE (k k' : String) (o : Option Y) : kvErase k (optE k' o) = if k' = k then [] else optE k' o := by
  cases o with
  | none => simp only [optE, kvErase, ite_self]
  | some v => simp only [optE, kvErase]

theorem filter_optE (q : String → Bool) (k : String) (o : Option Y) :
    (optE k o).filter (fun kv => q kv.1) = if q k then optE k o else [] := by
  cases o with
  | none => simp only [optE, List.filter_nil, ite_self]
  | some v => simp only [optE, List.filter_cons, List.filter_nil]

theorem ite_singleton (c : Prop) [Decidable c] (k : String) (v : Y) :
    (if c then [(k, v)] else []) = optE k (if c then some v else none) := by
  split <;> rfl

theorem req_of_get {k : String} {m : KVs} {v : Y} (h : kvGet k m = some v) : req k m = .ok v := by
  rw [req, h]

theorem renameProp_absent {old new : String} {m : KVs} (hne : old ≠ new) (h : kvGet new m = none) :
    renameProp old new m = kvErase old m ++ optE new (kvGet old m) := by
  unfold renameProp
  cases hg : kvGet old m with
  | none => simp only [optE, List.append_nil, kvErase_of_get_none hg]
  | some v => simp only [kvSet_of_get_none v h, kvErase_append, optE, kvErase, if_neg (Ne.symm hne)]

theorem copyProp_absent {src dst : KVs} {s d : String} (h : kvGet d dst = none) :
    copyProp src s d dst = dst ++ optE d (kvGet s src) := by
  unfold copyProp
  cases kvGet s src with
  | none => simp only [optE, List.append_nil]
  | some v => exact kvSet_of_get_none v h

theorem copyProp_nil (src : KVs) (s d : String) : copyProp src s d [] = optE d (kvGet s src) :=
  copyProp_absent (kvGet_nil d)

theorem iteSet_absent {k : String} {m : KVs} (c : Prop) [Decidable c] (v : Y) (h : kvGet k m = none) :
    (if c then m else kvSet k v m) = m ++ if c then [] else [(k, v)] := by
  split
  · exact (List.append_nil m).symm
  · exact kvSet_of_get_none v h

/-! ### conversion lemmas -/

theorem convEnumMembers_spec (ms : List AMember) : ∀ (cur : Int) (acc : KVs),
    convEnumMembers (ms.map AMember.r2) cur acc = .ok ((memberVals ms cur).foldl pushLabel acc) := by
  induction ms with
  | nil => intro cur acc; simp [convEnumMembers, memberVals]
  | cons m r ih =>
    intro cur acc
    cases m with
    | implicit l => simp [AMember.r2, convEnumMembers, memberVals, ih]
    | value l v => simp [AMember.r2, convEnumMembers, memberVals, ih, req, bind, Except.bind]
    | range l a b => simp [AMember.r2, convEnumMembers, memberVals, ih, req, bind, Except.bind]

theorem convIntFt_r2 (i : AInt) : convIntFt i.r2 = i.r3 := by
  simp only [AInt.r2, ite_singleton, List.append_assoc, List.cons_append, List.nil_append, convIntFt, kvGet, kvSet, kvErase,
    kvGet_append_or, kvGet_optE, kvErase_append, kvErase_optE, String.reduceEq, ↓reduceIte, renameProp_absent, ne_eq,
    not_false_eq_true, Option.or_none]
  obtain ⟨size, signed, say, align, base, clock, enc⟩ := i
  cases signed <;> cases say <;> rfl

theorem AInt.r2_class (i : AInt) : kvGet "class" i.r2 = some (.str "int") := kvGet_cons_self ..

theorem convFt_int (i : AInt) (fuel : Nat) : convFt (fuel + 1) (.map i.r2) = .ok (.map i.r3) := by
  rw [convFt, asMap, Except.ok_bind, req_of_get i.r2_class, Except.ok_bind]
  simp only [convIntFt_r2]

theorem AFt.depth_pos (a : AFt) : 1 ≤ a.depth := by
  cases a <;> exact Nat.le_add_left 1 _

theorem convFields_of {fuel : Nat} (hg : ∀ a : AFt, a.depth ≤ fuel → convFt fuel a.r2 = .ok a.r3) :
    ∀ fs, AFt.depthFields fs ≤ fuel → (AFt.r2Fields fs).mapM (convField (convFt fuel)) = .ok (AFt.r3Members fs)
  | [], _ => rfl
  | (n, a) :: r, h => by
    obtain ⟨ha, hr⟩ := Nat.max_le.mp (show max a.depth (AFt.depthFields r) ≤ fuel from h)
    rw [AFt.r2Fields, List.mapM_cons, convField, hg a ha, convFields_of hg r hr]
    rfl

theorem convFt_r2 (a : AFt) (fuel : Nat) (h : a.depth ≤ fuel) : convFt fuel a.r2 = .ok a.r3 := by
  induction fuel generalizing a with
  | zero => exact absurd (Nat.le_trans a.depth_pos h) (Nat.not_succ_le_zero 0)
  | succ f ih =>
    cases a
    case int i => exact convFt_int i f
    -- a spelling starts with its class: run the converter up to the branch the class selects (by `rw`, from the top,
    -- so that `simp` never visits the other branches), then compute that branch on the chain
    all_goals
      simp only [AFt.r2, List.cons_append, List.nil_append]
      rw [convFt, asMap, Except.ok_bind, req_of_get (kvGet_cons_self ..), Except.ok_bind]
    case enum vt ms =>
      cases f with
      | zero => exact absurd h (Nat.not_succ_le_self 1)
      | succ f =>
        simp only [req, kvGet, String.reduceEq, ↓reduceIte, Except.ok_bind, convFt_int, asMap, AInt.r3,
          List.cons_append, List.nil_append, List.append_assoc, kvSet, kvGetNN_of_ne, ne_eq, Option.some.injEq, reduceCtorEq,
          not_false_eq_true, convEnumMembers_spec, kvSet_of_get_none, kvGet_append_or, kvGet_optE, Option.or_none,
          AFt.r3, mappingsOf]
        cases vt.signed <;> rfl
    case float dbl al =>
      simp only [req, kvGet, kvSet, String.reduceEq, ↓reduceIte, Except.ok_bind, asMap, renameProp_absent, ne_eq, not_false_eq_true,
        kvGet_optE, kvErase, kvErase_optE, AFt.r3, List.cons_append, List.nil_append]
      cases dbl <;> rfl
    case str enc =>
      simp only [kvErase, kvErase_optE, String.reduceEq, ↓reduceIte, AFt.r3]
    case sarr n e =>
      simp only [req, kvGet, String.reduceEq, ↓reduceIte, Except.ok_bind, ih e (Nat.le_of_succ_le_succ h), reduceCtorEq,
        decide_false, Bool.false_eq_true, copyProp_absent, kvSet_of_get_none, optE_some, List.cons_append, List.nil_append,
        AFt.r3]
    case darr e =>
      simp only [req, kvGet, kvSet, String.reduceEq, ↓reduceIte, Except.ok_bind, ih e (Nat.le_of_succ_le_succ h),
        decide_true, AFt.r3]
    case struct ma fs =>
      simp only [kvGet, String.reduceEq, ↓reduceIte, Except.ok_bind, asMap, copyProp_absent, kvGetNN_of_ne, kvGet_append_or,
        kvGet_optE, Option.none_or, Option.or_none, ne_eq, Option.some.injEq, reduceCtorEq, not_false_eq_true,
        convFields_of ih fs (Nat.le_of_succ_le_succ h), kvSet_of_get_none, AFt.r3, List.cons_append, List.nil_append]

theorem convFields_r2 (fs : List (String × AFt)) (fuel : Nat) (h : AFt.depthFields fs ≤ fuel) :
    (AFt.r2Fields fs).mapM (convField (convFt fuel)) = .ok (AFt.r3Members fs) :=
  convFields_of (fun a => convFt_r2 a fuel) fs h

/-! ### enumeration mappings: every label maps to the values of the members bearing it, in order -/

def valsOf (l : String) (vs : List (String × Y)) : List Y := (vs.filter (fun lv => decide (lv.1 = l))).map (·.2)

/-- the values already listed under a label (what `pushLabel` appends to) -/
def seqItems : Option Y → List Y
  | some (.seq b) => b
  | _ => []

theorem pushLabel_eq (acc : KVs) (lv : String × Y) :
    pushLabel acc lv = kvSet lv.1 (.seq (seqItems (kvGet lv.1 acc) ++ [lv.2])) acc := by
  unfold pushLabel
  cases kvGet lv.1 acc with
  | none => rfl
  | some v => cases v <;> rfl

theorem kvGet_foldl_pushLabel (l : String) (vs : List (String × Y)) (acc : KVs) :
    kvGet l (vs.foldl pushLabel acc) =
      if valsOf l vs = [] then kvGet l acc else some (.seq (seqItems (kvGet l acc) ++ valsOf l vs)) := by
  induction vs generalizing acc with
  | nil => rfl
  | cons lv r ih =>
    rw [List.foldl_cons, ih, pushLabel_eq, kvGet_kvSet]
    by_cases hkl : lv.1 = l
    · subst hkl
      have hv : valsOf lv.1 (lv :: r) = lv.2 :: valsOf lv.1 r := by simp [valsOf]
      rw [if_pos rfl, hv, if_neg (List.cons_ne_nil _ _)]
      split
      · next h => rw [h]
      · rw [seqItems, List.append_assoc]
        rfl
    · have hv : valsOf l (lv :: r) = valsOf l r := by simp [valsOf, hkl]
      rw [if_neg hkl, hv]

theorem implicit_after_implicit (l l' : String) (r : List AMember) (cur : Int) :
    memberVals (.implicit l :: .implicit l' :: r) cur = (l, .int cur) :: (l', .int (cur + 1)) :: memberVals r (cur + 1 + 1) := rfl

/-! ### prefix splitting -/

theorem dropWhile_underscore_append (l : List Char) :
    ∃ n, l = (l.reverse.dropWhile (· = '_')).reverse ++ List.replicate n '_' := by
  have key : ∀ (r : List Char), ∃ n, r = List.replicate n '_' ++ r.dropWhile (· = '_') := by
    intro r
    induction r with
    | nil => exact ⟨0, rfl⟩
    | cons c t ih =>
      by_cases hc : c = '_'
      · obtain ⟨n, hn⟩ := ih
        refine ⟨n + 1, ?_⟩
        simp only [List.dropWhile_cons, hc, decide_true, if_true, List.replicate_succ, List.cons_append]
        rw [← hn]
      · exact ⟨0, by simp [hc]⟩
  obtain ⟨n, hn⟩ := key l.reverse
  refine ⟨n, ?_⟩
  have := congrArg List.reverse hn
  simp only [List.reverse_reverse, List.reverse_append, List.reverse_replicate] at this
  exact this

/-- the file name prefix is the barectf 2 prefix without its trailing underscores: the identifier prefix is
    the file name prefix followed by underscores only -/
theorem prefix_split (p : String) : ∃ n, p.toList = (rstripUnderscores p).toList ++ List.replicate n '_' := by
  obtain ⟨n, hn⟩ := dropWhile_underscore_append p.toList
  exact ⟨n, by simpa [rstripUnderscores] using hn⟩

theorem prefix_no_trailing_underscore (p : String) : (rstripUnderscores p).toList.getLast? ≠ some '_' := by
  simp only [rstripUnderscores, String.toList_ofList]
  generalize p.toList.reverse = r
  rw [List.getLast?_reverse]
  induction r with
  | nil => simp
  | cons c t ih =>
    by_cases hc : c = '_'
    · simpa [List.dropWhile_cons, hc] using ih
    · simp [hc]

end BVM
