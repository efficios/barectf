/-
  Proofs/Read.lean — the reader of Model/Tsdl.lean against the writers of Model/Bits.lean:
  reading a field back returns the value written, reduced to the field size (C01, scalar level).
-/
import BVM.Proofs.Bits
import BVM.Model.Tsdl
namespace BVM

theorem readBitsLE_testBit (buf : Buf) : ∀ (n at_ j : Nat),
    (readBitsLE buf at_ n).testBit j = (decide (j < n) && bitLE buf (at_ + j)) := by
  intro n
  induction n with
  | zero => intro at_ j; simp [readBitsLE]
  | succ n ih =>
    intro at_ j
    simp only [readBitsLE]
    cases j with
    | zero =>
      by_cases hb : bitLE buf at_ = true
      · simp [hb, Nat.testBit_zero, Nat.add_mul_mod_self_left]
      · have hb' : bitLE buf at_ = false := by simpa using hb
        simp [hb', Nat.testBit_zero]
    | succ j =>
      have : ((if bitLE buf at_ = true then 1 else 0) + 2 * readBitsLE buf (at_ + 1) n).testBit (j + 1) =
          (readBitsLE buf (at_ + 1) n).testBit j := by
        rw [Nat.testBit_succ]
        congr 1
        split <;> omega
      rw [this, ih]
      have e : at_ + 1 + j = at_ + (j + 1) := by omega
      rw [e]
      by_cases h : j < n <;> simp [h]

theorem readBitsLE_lt (buf : Buf) : ∀ (n at_ : Nat), readBitsLE buf at_ n < 2 ^ n := by
  intro n
  induction n with
  | zero => intro at_; simp [readBitsLE]
  | succ n ih =>
    intro at_
    simp only [readBitsLE]
    have := ih (at_ + 1)
    rw [Nat.pow_succ]
    split <;> omega

theorem readBitsBE_lt (buf : Buf) : ∀ (n at_ : Nat), readBitsBE buf at_ n < 2 ^ n := by
  intro n
  induction n with
  | zero => intro at_; simp [readBitsBE]
  | succ n ih =>
    intro at_
    simp only [readBitsBE]
    have := ih (at_ + 1)
    rw [Nat.pow_succ]
    split <;> omega

theorem readBitsBE_testBit (buf : Buf) : ∀ (n at_ m : Nat),
    (readBitsBE buf at_ n).testBit m = (decide (m < n) && bitBE buf (at_ + (n - 1 - m))) := by
  intro n
  induction n with
  | zero => intro at_ m; simp [readBitsBE]
  | succ n ih =>
    intro at_ m
    simp only [readBitsBE]
    have hlt := readBitsBE_lt buf n (at_ + 1)
    by_cases hb : bitBE buf at_ = true
    · simp only [hb, if_true]
      have e2 : 2 ^ n + readBitsBE buf (at_ + 1) n = 2 ^ n * 1 + readBitsBE buf (at_ + 1) n := by omega
      rw [e2, Nat.two_pow_add_eq_or_of_lt hlt, Nat.mul_one, Nat.testBit_or, Nat.testBit_two_pow, ih]
      by_cases h1 : m < n
      · have e : at_ + 1 + (n - 1 - m) = at_ + (n + 1 - 1 - m) := by omega
        have : ¬ n = m := by omega
        simp [h1, e, this]; omega
      · by_cases h2 : m = n
        · subst h2; simp [hb]
        · have : ¬ n = m := fun e => h2 e.symm
          simp [h1, this]; omega
    · have hb' : bitBE buf at_ = false := by simpa using hb
      simp only [hb', Bool.false_eq_true, if_false, Nat.zero_add]
      rw [ih]
      by_cases h1 : m < n
      · have e : at_ + 1 + (n - 1 - m) = at_ + (n + 1 - 1 - m) := by omega
        simp [h1, e]; omega
      · by_cases h2 : m = n
        · subst h2; simp [hb']
        · simp [h1]; omega

theorem readBitsLE_congr (b1 b2 : Buf) : ∀ (n a : Nat), (∀ i, a ≤ i → i < a + n → bitLE b1 i = bitLE b2 i) →
    readBitsLE b1 a n = readBitsLE b2 a n
  | 0, _, _ => rfl
  | n + 1, a, h => by
    simp only [readBitsLE]
    rw [h a (Nat.le_refl _) (by omega), readBitsLE_congr b1 b2 n (a + 1) (fun i h1 h2 => h i (by omega) (by omega))]

theorem readBitsBE_congr (b1 b2 : Buf) : ∀ (n a : Nat), (∀ i, a ≤ i → i < a + n → bitBE b1 i = bitBE b2 i) →
    readBitsBE b1 a n = readBitsBE b2 a n
  | 0, _, _ => rfl
  | n + 1, a, h => by
    simp only [readBitsBE]
    rw [h a (Nat.le_refl _) (by omega), readBitsBE_congr b1 b2 n (a + 1) (fun i h1 h2 => h i (by omega) (by omega))]

theorem readBits_congr (bo : ByteOrder) (b1 b2 : Buf) (n a : Nat)
    (h : ∀ i, a ≤ i → i < a + n → bit bo b1 i = bit bo b2 i) : readBits bo b1 a n = readBits bo b2 a n := by
  cases bo
  · exact readBitsLE_congr b1 b2 n a h
  · exact readBitsBE_congr b1 b2 n a h

theorem read_write (bo : ByteOrder) (vt : CInt) (buf : Buf) (base start len : Nat) (v : Int)
    (hb : base + (start + len + 7) / 8 ≤ buf.length) :
    readBits bo (bfWrite bo vt buf base start len v) (8 * base + start) len = (v % (2 : Int) ^ len).toNat := by
  refine Nat.eq_of_testBit_eq (fun j => ?_)
  rw [toNat_emod_testBit]
  cases bo
  · show (readBitsLE (bfWriteLE ..) ..).testBit j = _
    rw [readBitsLE_testBit, bfWriteLE_bit _ _ _ _ _ _ hb]
    by_cases hj : j < len
    · rw [if_pos ⟨Nat.le_add_right .., Nat.add_lt_add_left hj _⟩, Nat.add_sub_cancel_left]
    · simp [hj]
  · show (readBitsBE (bfWriteBE ..) ..).testBit j = _
    rw [readBitsBE_testBit, bfWriteBE_bit _ _ _ _ _ _ hb]
    by_cases hj : j < len
    · rw [if_pos ⟨Nat.le_add_right .., by omega⟩]; simp only [hj, decide_true, Bool.true_and]; congr 1; omega
    · simp [hj]

theorem read_frame (bo : ByteOrder) (vt : CInt) (buf : Buf) (base start len : Nat) (v : Int)
    (hb : base + (start + len + 7) / 8 ≤ buf.length) (at_ n : Nat)
    (hd : at_ + n ≤ 8 * base + start ∨ 8 * base + start + len ≤ at_) :
    readBits bo (bfWrite bo vt buf base start len v) at_ n = readBits bo buf at_ n := by
  cases bo
  · exact readBitsLE_congr _ _ _ _ fun i h1 h2 => (bfWriteLE_bit vt buf base start len v hb i).trans (if_neg (by omega))
  · exact readBitsBE_congr _ _ _ _ fun i h1 h2 => (bfWriteBE_bit vt buf base start len v hb i).trans (if_neg (by omega))

theorem readLE_memcpy (buf : Buf) (base n x : Nat) (hb : base + n ≤ buf.length) :
    readBitsLE (memcpyLE n buf base x) (8 * base) (8 * n) = x % 2 ^ (8 * n) := by
  refine Nat.eq_of_testBit_eq (fun j => ?_)
  rw [readBitsLE_testBit, Nat.testBit_mod_two_pow, (memcpyLE_put n buf base x).bits' bitLE_local (by omega)]
  by_cases hj : j < 8 * n
  · rw [if_pos ⟨Nat.le_add_right .., by omega⟩, Nat.add_sub_cancel_left]
  · simp [hj]

/-- sign extension of the bits read is the reduction of the value to the field (signed) -/
theorem signExtend_reduce (size : Nat) (hs : 0 < size) (v : Int) :
    signExtend true size ((v % (2 : Int) ^ size).toNat) =
      (if (v % (2 : Int) ^ size) < (2 : Int) ^ (size - 1) then v % (2 : Int) ^ size else v % (2 : Int) ^ size - (2 : Int) ^ size) := by
  have hpos : (0 : Int) < (2 : Int) ^ size := Int.pow_pos (by decide)
  have hnn : 0 ≤ v % (2 : Int) ^ size := Int.emod_nonneg _ (by omega)
  have hlt : v % (2 : Int) ^ size < (2 : Int) ^ size := Int.emod_lt_of_pos v hpos
  unfold signExtend
  generalize hw : v % (2 : Int) ^ size = w at hnn hlt
  have hcast : ((w.toNat : Nat) : Int) = w := Int.toNat_of_nonneg hnn
  have hwn : w.toNat < 2 ^ size := by
    have : ((w.toNat : Nat) : Int) < ((2 ^ size : Nat) : Int) := by rw [hcast]; simpa using hlt
    exact_mod_cast this
  have htop : w.toNat.testBit (size - 1) = decide (2 ^ (size - 1) ≤ w.toNat) := by
    have e : size = (size - 1) + 1 := by omega
    rw [Nat.testBit_eq_decide_div_mod_eq]
    have h2 : w.toNat < 2 ^ (size - 1) * 2 := by
      have : 2 ^ (size - 1) * 2 = 2 ^ size := by rw [← Nat.pow_succ]; congr 1; omega
      rw [this]; exact hwn
    by_cases hge : 2 ^ (size - 1) ≤ w.toNat
    · have : w.toNat / 2 ^ (size - 1) = 1 := by
        apply Nat.div_eq_of_lt_le <;> omega
      simp [hge, this]
    · have : w.toNat / 2 ^ (size - 1) = 0 := Nat.div_eq_of_lt (by omega)
      simp [hge, this]
  simp only [Bool.true_and, hs, decide_true, htop]
  have hp : ((2 ^ (size - 1) : Nat) : Int) = (2 : Int) ^ (size - 1) := by simp
  by_cases hge : 2 ^ (size - 1) ≤ w.toNat
  · have : ¬ w < (2 : Int) ^ (size - 1) := by
      rw [← hp, ← hcast]; omega
    simp [hge, this, hcast]
  · have : w < (2 : Int) ^ (size - 1) := by
      rw [← hp, ← hcast]; omega
    simp [hge, this, hcast]

end BVM
