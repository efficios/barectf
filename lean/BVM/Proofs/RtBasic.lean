/-
  Proofs/RtBasic.lean — log-extension calculus for the runtime model: every function of
  Model/Rt.lean only prepends events to the log.
-/
import BVM.Model.Rt
namespace BVM

/-- `s'` extends the log of `s` by events that all satisfy `P` -/
def Ext (P : Ev → Prop) (s s' : St) : Prop := ∃ new, s'.log = new ++ s.log ∧ ∀ e ∈ new, P e

theorem Ext.refl (P : Ev → Prop) (s : St) : Ext P s s := ⟨[], rfl, by simp⟩

theorem Ext.of_log_eq {P : Ev → Prop} {s s' : St} (h : s'.log = s.log) : Ext P s s' :=
  ⟨[], by simpa using h, by simp⟩

theorem Ext.trans {P : Ev → Prop} {s₁ s₂ s₃ : St} (h₁ : Ext P s₁ s₂) (h₂ : Ext P s₂ s₃) : Ext P s₁ s₃ := by
  obtain ⟨n₁, e₁, p₁⟩ := h₁
  obtain ⟨n₂, e₂, p₂⟩ := h₂
  refine ⟨n₂ ++ n₁, by rw [e₂, e₁, List.append_assoc], ?_⟩
  intro e he
  rcases List.mem_append.mp he with h | h
  · exact p₂ e h
  · exact p₁ e h

theorem Ext.ev {P : Ev → Prop} (s : St) (e : Ev) (h : P e) : Ext P s (s.ev e) :=
  ⟨[e], rfl, by simpa using h⟩

theorem Ext.mono {P Q : Ev → Prop} {s s' : St} (h : Ext P s s') (hpq : ∀ e, P e → Q e) : Ext Q s s' := by
  obtain ⟨n, e, p⟩ := h
  exact ⟨n, e, fun x hx => hpq x (p x hx)⟩

/-- all events of the final log satisfy `P` if those of the initial log do -/
theorem Ext.all {P : Ev → Prop} {s s' : St} (h : Ext P s s') (h0 : ∀ e ∈ s.log, P e) : ∀ e ∈ s'.log, P e := by
  obtain ⟨n, e, p⟩ := h
  intro x hx
  rw [e] at hx
  rcases List.mem_append.mp hx with h | h
  · exact p x h
  · exact h0 x h

@[simp] theorem St.ev_c (s : St) (e : Ev) : (s.ev e).c = s.c := rfl
@[simp] theorem St.ev_buf (s : St) (e : Ev) : (s.ev e).buf = s.buf := rfl
@[simp] theorem St.ev_p (s : St) (e : Ev) : (s.ev e).p = s.p := rfl
@[simp] theorem St.ev_halted (s : St) (e : Ev) : (s.ev e).halted = s.halted := rfl
@[simp] theorem St.ev_log (s : St) (e : Ev) : (s.ev e).log = e :: s.log := rfl

/-- the size the fit test after `_reserve_er_space` uses is the record's size at the position it will be written at -/
theorem sizeAfterReserve_eq (d : DST) (e : ERT) (args : Args) (erAt : Nat) (s : St) :
    sizeAfterReserve d e args erAt (erSizeAt d e args erAt) s = erSizeAt d e args s.c.at_ := by
  unfold sizeAfterReserve
  by_cases h : s.c.at_ = erAt <;> simp [h]

end BVM
