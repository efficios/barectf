/-
  Proofs/Bridge.lean — the loader model (`load3`, with its schema stages and Python checks) and the
  expansion model (`expand3`) agree: whatever `load3` accepts, `expand3` expands to the same effective node.
-/
import BVM.Model.Load
import BVM.Proofs.Comb
namespace BVM

/-! ### refinement: `x ≤ y` when every success of `x` is one of `y` -/

/-- a relation between two computations (here the checked and the plain inclusion stage on one input); `FR.Sat` speaks
    of one -/
def FR.le {α : Type} (x y : FR α) : Prop := ∀ r, x = .ok r → y = .ok r

theorem FR.le_refl {α : Type} (x : FR α) : FR.le x x := fun _ h => h

theorem FR.le_bind {α β : Type} {x x' : FR α} {f f' : α → FR β} (hx : FR.le x x') (hf : ∀ a, FR.le (f a) (f' a)) :
    FR.le (x >>= f) (x' >>= f') := by
  intro r h
  obtain ⟨a, ha, h⟩ := Except.bind_eq_ok.mp h
  exact Except.bind_eq_ok.mpr ⟨a, hx a ha, hf a r h⟩

/-- a computation that runs first and whose result is not used (a schema stage) can only take successes away -/
theorem FR.seq_le {α β : Type} (x : FR α) {y y' : FR β} (h : FR.le y y') : FR.le (x >>= fun _ => y) y' := by
  intro r hr
  obtain ⟨_, _, hr⟩ := Except.bind_eq_ok.mp hr
  exact h r hr

theorem modKey_le {k : String} {f g : Y → FR Y} (h : ∀ v, FR.le (f v) (g v)) (m : KVs) :
    FR.le (modKey k f m) (modKey k g m) := by
  rw [modKey_eq, modKey_eq]
  split
  · exact FR.le_refl _
  · exact FR.le_bind (h _) fun _ => FR.le_refl _

theorem mapVals_le {f g : String → Y → FR Y} (h : ∀ k v, FR.le (f k v) (g k v)) : ∀ m : KVs,
    FR.le (mapVals f m) (mapVals g m)
  | [] => FR.le_refl _
  | (k, v) :: r => FR.le_bind (h k v) fun _ => FR.le_bind (mapVals_le h r) fun _ => FR.le_refl _

theorem foldlM_le {α β : Type} {s1 s2 : α → β → FR α} (h : ∀ a b, FR.le (s1 a b) (s2 a b)) :
    ∀ (l : List β) (a : α), FR.le (l.foldlM s1 a) (l.foldlM s2 a)
  | [], _ => FR.le_refl _
  | b :: t, a => by
    rw [List.foldlM_cons, List.foldlM_cons]
    exact FR.le_bind (h a b) fun a' => foldlM_le h t a'

theorem childStep_le {r1 r2 : Kind → Y → FR Y} (h : ∀ k c, FR.le (r1 k c) (r2 k c)) (m : KVs)
    (cs : String × ChildSpec) : FR.le (childStep r1 m cs) (childStep r2 m cs) := by
  obtain ⟨key, spec⟩ := cs
  cases spec with
  | single k' => exact modKey_le (h k') m
  | each k' =>
    refine modKey_le (fun v => ?_) m
    cases v with
    | map cm => exact FR.le_bind (mapVals_le (fun _ c => h k' c) cm) fun _ => FR.le_refl _
    | _ => exact FR.le_refl _

theorem inclStep_le {r1 r2 : Stack → Y → FR Y} (h : ∀ st c, FR.le (r1 st c) (r2 st c))
    (W : World) (stack : Stack) (v3 : Bool) (base : Option Y) (p : String) :
    FR.le (inclStep r1 W stack v3 base p) (inclStep r2 W stack v3 base p) := by
  unfold inclStep
  split
  · exact FR.le_refl _
  · split
    · exact FR.le_refl _
    · exact FR.le_bind (h _ _) fun _ => FR.le_refl _

/-- what the checked inclusion processing returns, the plain one returns too -/
theorem procIncludeChecked_le (store : Store) (W : World) : ∀ (fuel : Nat) (stack : Stack) (kd : Kind) (y : Y),
    FR.le (procIncludeChecked store W fuel stack kd y) (procInclude W fuel stack kd y)
  | 0, _, _, _ => nofun
  | f + 1, stack, kd, y => by
    unfold procIncludeChecked procInclude
    refine FR.seq_le _ ?_
    cases y with
    | map m0 =>
      refine FR.le_bind (foldlM_le (childStep_le (procIncludeChecked_le store W f stack)) _ _) fun m1 => ?_
      cases kvGet "$include" m1 with
      | none => exact FR.le_refl _
      | some inc =>
        exact FR.le_bind (FR.le_refl _) fun _ =>
          FR.le_bind (foldlM_le (inclStep_le (fun st c => procIncludeChecked_le store W f st kd c) W stack _) _ _)
            fun _ => FR.le_refl _
    | _ => exact FR.le_refl _

theorem reqK_eq_ok {k : String} {m : KVs} {v : Y} : reqK k m = .ok v ↔ kvGet k m = some v := by
  unfold reqK; cases kvGet k m <;> simp

theorem load3_ok {store : Store} {W : World} {fuel : Nat} {cfg e : KVs} (h : load3 store W fuel cfg = .ok e) :
    ∃ tr m tt tt1 tt2 trm2,
      kvGet "trace" cfg = some tr ∧ procIncludeChecked store W fuel [] .trace tr = .ok (.map m) ∧
      kvGet "type" m = some (.map tt) ∧ expandFts3 fuel tt = .ok tt1 ∧ subLogLevels tt1 = .ok tt2 ∧
      schemaStage store fuel "config/3/config" (.map (kvSet "trace" (.map (kvSet "type" (.map tt2) m)) cfg)) = .ok () ∧
      normalizeTrace (kvSet "type" (.map tt2) m) = .ok trm2 ∧
      pyChecks fuel (kvSet "trace" (.map trm2) cfg) = .ok () ∧ e = kvSet "trace" (.map trm2) cfg := by
  simp only [load3, Except.bind_eq_ok, reqK_eq_ok] at h
  -- every schema stage and `pyChecks` leaves a pair: its `()` and its equation. The two pairs dropped here are the stages
  -- `config-pre-include` and `config-pre-field-type-expansion`, of which the statement does not speak
  obtain ⟨_, _, tr, htr, tr1, hinc, _, _, h⟩ := h
  cases tr1 with
  | map m =>
    simp only [Except.bind_eq_ok, reqK_eq_ok, pure, Except.pure, Except.ok.injEq, exists_eq_left'] at h
    obtain ⟨ttv, hty, h⟩ := h
    cases ttv with
    | map tt =>
      simp only [Except.bind_eq_ok, Except.ok.injEq, exists_eq_left'] at h
      -- dropped: the stage `config-pre-log-level-alias-sub`; `h8` is the stage `config`, `h10` is `pyChecks`
      obtain ⟨tt1, h5, _, _, tt2, h7, _, h8, trm2, h9, _, h10, he⟩ := h
      exact ⟨tr, m, tt, tt1, tt2, trm2, htr, hinc, hty, h5, h7, h8, h9, h10, he.symm⟩
    | _ => simp [bind, Except.bind] at h
  | _ => simp [bind, Except.bind] at h

/-- the effective node of an accepted document is the one the expansion model gives -/
theorem load3_ok_expand3 (store : Store) (W : World) (fuel : Nat) (cfg e : KVs)
    (h : load3 store W fuel cfg = .ok e) : expand3 W fuel cfg = .ok e := by
  obtain ⟨tr, m, tt, tt1, tt2, trm2, htr, hinc, hty, h5, h7, _, h9, _, rfl⟩ := load3_ok h
  simp only [expand3, htr, procIncludeChecked_le _ _ _ _ _ _ _ hinc, bind, Except.bind, hty, h5, h7, h9]

end BVM
