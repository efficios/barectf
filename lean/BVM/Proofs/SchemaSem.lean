/-
  Proofs/SchemaSem.lean — what the interpreter (Model/Schema.lean) says of a few schema shapes, for every
  instance and every store, and the arithmetic of the Python alignment test.
-/
import BVM.Model.Load
import BVM.Proofs.Comb
namespace BVM

/-! ### `seqAll` -/

@[simp] theorem seqAll_nil : seqAll [] = some true := rfl

theorem seqAll_cons (r : Option Bool) (l : List (Option Bool)) :
    seqAll (r :: l) = if r = some true then seqAll l else r := by
  by_cases h : r = some true <;> simp [seqAll, h]

@[simp] theorem seqAll_singleton (r : Option Bool) : seqAll [r] = r := by
  by_cases h : r = some true <;> simp [seqAll_cons, h]

theorem seqAll_true (l : List (Option Bool)) : seqAll l = some true ↔ ∀ r ∈ l, r = some true := by
  induction l with
  | nil => simp
  | cons r l ih => by_cases h : r = some true <;> simp [seqAll_cons, h, ih]

/-! ### `validate`, one equation per form of schema the proofs below use

`validate` is a single recursion on the fuel whose body holds the whole interpreter as a local function, so
`simp [validate]` copies that body at every recursive call, under binders too, and a schema nested three deep
is out of reach that way. The equations below are what proofs use instead. -/

theorem validate_ref (store : Store) (fuel : Nat) (key : String) (t : Schema) (y : Y)
    (h : store.lookup key = some t) : validate store (fuel + 1) (.ref key) y = validate store fuel t y := by
  simp only [validate, h]

section
variable (store : Store) (fuel : Nat) (y : Y)

@[simp] theorem validate_type (ts : List JType) :
    validate store (fuel + 1) (.type ts) y = some (ts.any fun t => isType t y) := rfl

@[simp] theorem validate_enum (vs : List Y) :
    validate store (fuel + 1) (.enum vs) y = some (vs.any fun v => pyEq y v) := rfl

@[simp] theorem validate_minimum (i : Int) :
    validate store (fuel + 1) (.minimum i) y = some (match numVal y with | some q => leQ (i, 1) q | none => true) := rfl

@[simp] theorem validate_maximum (i : Int) :
    validate store (fuel + 1) (.maximum i) y = some (match numVal y with | some q => leQ q (i, 1) | none => true) := rfl

@[simp] theorem validate_pattern (p : Pat) :
    validate store (fuel + 1) (.pattern p) y = some (match y with | .str s => p.matches s | _ => true) := rfl

@[simp] theorem validate_allOf (ss : List Schema) :
    validate store (fuel + 1) (.allOf ss) y = seqAll (ss.map fun sub => validate store fuel sub y) := rfl

@[simp] theorem validate_not (sub : Schema) :
    validate store (fuel + 1) (.not sub) y = (validate store fuel sub y).map fun b => !b := rfl

@[simp] theorem validate_ite (i : Schema) (t e : Option Schema) :
    validate store (fuel + 1) (.ite i t e) y =
      match validate store fuel i y with
      | none => none
      | some true => match t with | some ts => validate store fuel ts y | none => some true
      | some false => match e with | some es => validate store fuel es y | none => some true := rfl

end

/-- a keyword inside a schema object whose `properties` / `patternProperties` are `props` / `pats`: only
    `additionalProperties` looks at those, and a nested object takes no fuel of its own -/
@[simp] def validateIn (store : Store) (fuel : Nat) (props : List (String × Schema)) (pats : List (Pat × Schema))
    (kw : Schema) (y : Y) : Option Bool :=
  match kw with
  | .additionalProperties sub =>
    match y with
    | .map m => seqAll (m.map fun (k, v) =>
        if isAdditional props pats false k then validate store fuel sub v else some true)
    | _ => some true
  | .obj kws => validate store fuel (.obj kws) y
  | kw => validate store (fuel + 1) kw y

@[simp] def Schema.isRef : Schema → Bool
  | .ref _ => true
  | _ => false

/-- `$ref` hides its siblings; otherwise an object is its keywords in turn, up to the first that does not hold -/
@[simp] theorem validate_obj (store : Store) (fuel : Nat) (kws : List Schema) (y : Y) :
    validate store (fuel + 1) (.obj kws) y =
      match kws.find? Schema.isRef with
      | some r => validateIn store fuel [] [] r y
      | none => seqAll (kws.map (validateIn store fuel (kwProps kws) (kwPats kws) · y)) := by
  rw [validate.eq_2]
  -- the model tests for `$ref` with an anonymous `match`, equal to `Schema.isRef` only by unfolding: hence `show`
  split
  next r h =>
    rw [show kws.find? Schema.isRef = some r from h]
    cases r <;> rfl
  next h =>
    rw [show kws.find? Schema.isRef = none from h]
    exact congrArg seqAll (List.map_congr_left fun k _ => by cases k <;> rfl)

/-! ### looking a key up in a table whose keys share a prefix

A string literal unifies with `String.ofList` of its characters, and the kernel compares lists of characters far
more cheaply than strings (which it first has to encode in UTF-8). The keys of the table share the 70 characters
of `K_common`; the two lemmas let a lookup compare only what comes after them. -/

section
variable {β : Type} {p d b : List Char} {v : β} {r : List (String × β)}

/-- looking for `p ++ d`: an entry whose key, past the length of `p`, is not `d` is passed over -/
theorem lookup_append_ne (h : b.drop p.length ≠ d) :
    List.lookup (String.ofList p ++ String.ofList d) ((String.ofList b, v) :: r) =
      List.lookup (String.ofList p ++ String.ofList d) r := by
  rw [List.lookup_cons, beq_false_of_ne]
  rw [← String.ofList_append, Ne, String.ofList_inj]
  rintro rfl
  exact h List.drop_left

theorem lookup_append_eq (h : p ++ d = b) :
    List.lookup (String.ofList p ++ String.ofList d) ((String.ofList b, v) :: r) = some v := by
  rw [← String.ofList_append, h, List.lookup_cons_self]

end

/-! ### the schema shapes C09 speaks of

Each proof runs the interpreter on the schema by the equations above (`simp only`), then goes through the kinds of
instance. What the closing `simp` is left with: `isType`; the order on rationals, `leQ (i, 1) (n, 1)`, which is `i ≤ n`;
for an `enum` of strings, `validate_enum_str`. -/

/-- integer size: `type: integer, minimum: lo, maximum: hi` -/
theorem sem_int_range (store : Store) (fuel : Nat) (lo hi : Int) (y : Y) :
    validate store (fuel + 1) (.obj [.type [.integer], .minimum lo, .maximum hi]) y = some true ↔
      ∃ n, y = .int n ∧ lo ≤ n ∧ n ≤ hi := by
  simp only [validate_obj, List.find?, Schema.isRef, List.map, validateIn, validate_type, validate_minimum, validate_maximum,
    seqAll_true, List.forall_mem_cons, List.any, Bool.or_false]
  cases y <;> simp [isType, numVal, leQ]

/-- `if type: integer then minimum: k else type: null` -/
theorem sem_opt_int_min (store : Store) (fuel : Nat) (k : Int) (y : Y) :
    validate store (fuel + 2) (.obj [.ite (.obj [.type [.integer]]) (some (.obj [.minimum k])) (some (.obj [.type [.null]]))]) y
      = some true ↔ (y = .null ∨ ∃ n, y = .int n ∧ k ≤ n) := by
  simp only [validate_obj, List.find?, Schema.isRef, List.map, validateIn, validate_type, validate_minimum, validate_ite,
    seqAll_singleton, List.any, Bool.or_false]
  cases y <;> simp [isType, numVal, leQ]

theorem pyEq_str (a b : String) : pyEq (.str a) (.str b) = (a == b) := by rw [pyEq]

/-- an `enum` of strings, on a string: higher priority than `validate_enum`, which `simp` would follow by `List.any_map` -/
@[simp high] theorem validate_enum_str (store : Store) (fuel : Nat) (vs : List String) (s : String) :
    validate store (fuel + 1) (.enum (vs.map Y.str)) (.str s) = some (vs.contains s) := by
  rw [validate_enum]
  induction vs with
  | nil => rfl
  | cons v r ih => simp only [List.map_cons, List.any_cons, pyEq_str, List.contains_cons, Option.some.inj ih]

/-- `type: string, enum: [...]` of strings -/
theorem sem_str_enum (store : Store) (fuel : Nat) (vs : List String) (y : Y) :
    validate store (fuel + 1) (.obj [.type [.string], .enum (vs.map Y.str)]) y = some true ↔
      ∃ s, y = .str s ∧ s ∈ vs := by
  simp only [validate_obj, List.find?, Schema.isRef, List.map, validateIn, validate_type, seqAll_true, List.forall_mem_cons,
    List.any, Bool.or_false]
  cases y <;> simp [isType]

/-- the identifier schema: `type: string, allOf: [pattern: iden\Z, not: enum: keywords]` -/
theorem sem_iden (store : Store) (fuel : Nat) (kws : List String) (y : Y) :
    validate store (fuel + 3) (.obj [.type [.string],
        .allOf [.obj [.pattern .idenZ], .obj [.not (.obj [.enum (kws.map Y.str)])]]]) y = some true ↔
      ∃ s, y = .str s ∧ matchIdenZ s.toList = true ∧ s ∉ kws := by
  simp only [validate_obj, List.find?, Schema.isRef, List.map, validateIn, validate_type, validate_allOf, validate_pattern,
    validate_not, seqAll_true, seqAll_singleton, List.forall_mem_cons, List.any, Bool.or_false]
  cases y <;> simp [isType, Pat.matches]

/-- an identifier (as the schemas define it) is a non-empty string of ASCII letters, digits and
    underscores that does not start with a digit: in particular no space, no new-line -/
theorem matchIdenZ_chars (cs : List Char) (h : matchIdenZ cs = true) :
    cs ≠ [] ∧ ∀ c ∈ cs, c.isAlphanum = true ∨ c = '_' := by
  cases cs with
  | nil => simp [matchIdenZ] at h
  | cons c r =>
    simp only [matchIdenZ, Bool.and_eq_true, List.all_eq_true] at h
    refine ⟨by simp, ?_⟩
    intro x hx
    rcases List.mem_cons.mp hx with rfl | hx
    · have := h.1
      simp only [isIdenStart, Bool.or_eq_true, decide_eq_true_eq] at this
      rcases this with h1 | h1
      · left; simp [Char.isAlphanum, h1]
      · right; exact h1
    · have := h.2 x hx
      simp only [isIdenChar, Bool.or_eq_true, decide_eq_true_eq] at this
      exact this

theorem matchIdenZ_no_newline (cs : List Char) (h : matchIdenZ cs = true) : '\n' ∉ cs := by
  intro hin
  rcases (matchIdenZ_chars cs h).2 '\n' hin with h1 | h1
  · revert h1; decide
  · exact absurd h1 (by decide)

/-! ### the alignment test of `_validate_alignment` -/

theorem validateAlignment_ok (a : Int) : validateAlignment a = .ok () ↔ ∃ k : Nat, a = 2 ^ k := by
  unfold validateAlignment
  by_cases h1 : a < 1
  · have : ∀ k : Nat, a ≠ 2 ^ k := fun k e => by
      have : (0 : Int) < 2 ^ k := Int.pow_pos (by decide)
      omega
    simp [h1, this]
  · obtain ⟨n, rfl⟩ := Int.eq_ofNat_of_zero_le (by omega : 0 ≤ a)
    have e : ∀ k : Nat, (n : Int) = 2 ^ k ↔ n = 2 ^ k := fun k => by norm_cast
    simp [h1, Nat.and_sub_one_eq_zero_iff_isPowerOfTwo (by omega : n ≠ 0), Nat.isPowerOfTwo, e]

/-! ### structure members -/

def memberName : Y → Option String
  | .map ((n, _) :: _) => some n
  | _ => none

theorem validateIden_eq_ok {s : String} : validateIden s = .ok () ↔ s ∉ ctfKeywords := by
  unfold validateIden
  split <;> simp_all

/-- what `_create_struct_ft_members` has checked of the first member when it accepts a list: a mapping whose
    first key (the only one the function reads) is new and no keyword; the rest is checked against a list that holds at least the names seen so far -/
theorem createMembers_cons_ok {fuel : Nat} {mem : Y} {rest : List Y} {seen : List String}
    (h : createMembers (fuel + 1) (mem :: rest) seen = .ok ()) :
    ∃ name mv more seen', mem = .map ((name, mv) :: more) ∧ name ∉ seen ∧ name ∉ ctfKeywords ∧
      (∀ x ∈ name :: seen, x ∈ seen') ∧ createMembers fuel rest seen' = .ok () := by
  unfold createMembers at h
  split at h
  · -- the `do` block, statement by statement
    obtain ⟨hs, h⟩ := Except.guard_eq_ok.mp h
    obtain ⟨_, hv, h⟩ := Except.bind_eq_ok.mp h
    split at h
    · obtain ⟨ft, _, h⟩ := Except.bind_eq_ok.mp (show reqK "field-type" _ >>= _ = _ from h)
      split at h
      · obtain ⟨cls, _, h⟩ := Except.bind_eq_ok.mp (show reqK "class" _ >>= _ = _ from h)
        obtain ⟨_, h⟩ := Except.guard_eq_ok.mp h
        obtain ⟨k, _, h⟩ := Except.bind_eq_ok.mp h
        obtain ⟨_, h⟩ := Except.guard_eq_ok.mp h
        refine ⟨_, _, _, _, rfl, by simpa using hs, validateIden_eq_ok.mp hv, fun x hx => ?_, h⟩
        split
        · exact List.mem_cons_of_mem _ hx
        · exact hx
      · cases h
    · cases h
  all_goals cases h

/-- `_create_struct_ft_members` accepts only member lists whose names are pairwise distinct, distinct from
    the names seen before, and none of them a TSDL keyword -/
theorem createMembers_names : ∀ (fuel : Nat) (ms : List Y) (seen : List String),
    createMembers fuel ms seen = .ok () →
      (ms.filterMap memberName).Nodup ∧ ∀ n ∈ ms.filterMap memberName, n ∉ seen ∧ n ∉ ctfKeywords
  | 0, _, _, h => by rw [createMembers] at h; cases h
  | _ + 1, [], _, _ => ⟨.nil, nofun⟩
  | f + 1, mem :: rest, seen, h => by
    obtain ⟨name, mv, more, seen', rfl, hs, hk, hsub, hrest⟩ := createMembers_cons_ok h
    obtain ⟨hnd, hmem⟩ := createMembers_names f rest seen' hrest
    have hfm : (Y.map ((name, mv) :: more) :: rest).filterMap memberName = name :: rest.filterMap memberName := rfl
    rw [hfm]
    refine ⟨List.nodup_cons.mpr ⟨fun hin => (hmem name hin).1 (hsub _ List.mem_cons_self), hnd⟩, ?_⟩
    intro n hn
    rcases List.mem_cons.mp hn with rfl | hn
    · exact ⟨hs, hk⟩
    · exact ⟨fun hin => (hmem n hn).1 (hsub _ (List.mem_cons_of_mem _ hin)), (hmem n hn).2⟩

end BVM
