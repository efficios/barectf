/-
  Proofs/Shifts.lean — no shift either macro executes has an amount as large as the width of its operand.
-/
import BVM.Model.Bits
namespace BVM

/-- every shift of the list has an amount below the width of its operand -/
def okS (l : List (Nat × Nat)) : Prop := ∀ p ∈ l, p.2 < p.1

theorem pwShifts_ok (W shift : Nat) (hW : 2 ≤ W) : okS (pwShifts W shift) := by
  intro p hp
  unfold pwShifts at hp
  rw [List.mem_append] at hp
  rcases hp with hp | hp
  · have := (List.mem_replicate.mp hp).2; subst this; simp; omega
  · simp at hp; subst hp; simp
    have : shift % (W - 1) < W - 1 := Nat.mod_lt _ (by omega)
    omega

theorem okS_nil : okS [] := nofun
theorem okS_app {a b : List (Nat × Nat)} (ha : okS a) (hb : okS b) : okS (a ++ b) := List.forall_mem_append.mpr ⟨ha, hb⟩
theorem okS_cons {w a : Nat} {l : List (Nat × Nat)} (h : a < w) (hl : okS l) : okS ((w, a) :: l) :=
  List.forall_mem_cons.mpr ⟨h, hl⟩
theorem okS_ite {c : Prop} [Decidable c] {a b : List (Nat × Nat)} (ha : c → okS a) (hb : ¬ c → okS b) :
    okS (if c then a else b) := by
  split
  · exact ha ‹_›
  · exact hb ‹_›
theorem okS_flat_rep {l : List (Nat × Nat)} (n : Nat) (h : okS l) : okS (List.replicate n l).flatten :=
  List.forall_mem_flatten.mpr fun _ hl => List.eq_of_mem_replicate hl ▸ h

theorem bfShifts_ok (isLE : Bool) (W start len : Nat) (hW : 2 ≤ W) : okS (bfShifts isLE W start len) := by
  have hs8 : start % 8 < 8 := Nat.mod_lt _ (by decide)
  have he8 : (start + len) % 8 < 8 := Nat.mod_lt _ (by decide)
  have hx8 : (8 - (start + len) % 8) % 8 < 8 := Nat.mod_lt _ (by decide)
  have hpw : ∀ s, okS (pwShifts W s) := fun s => pwShifts_ok W s hW
  have htrim : okS (if len < W then [(max W 32, len)] else []) :=
    okS_ite (fun h => okS_cons (by omega) okS_nil) (fun _ => okS_nil)
  unfold bfShifts
  refine okS_ite (fun _ => okS_nil) (fun _ => ?_)
  -- the two byte orders differ only in which remainder each amount is: one argument serves both
  cases isLE
  all_goals
    simp only [Bool.false_eq_true, if_false, if_true]
    refine okS_ite (fun _ => ?_) (fun _ => ?_)
    · exact okS_app (okS_app (okS_app htrim (okS_cons (by omega) okS_nil))
        (okS_ite (fun _ => okS_cons (by omega) okS_nil) (fun _ => okS_nil))) (okS_cons (by omega) okS_nil)
    · exact okS_app (okS_app (okS_app htrim
        (okS_ite (fun _ => okS_app (okS_cons (by omega) (okS_cons (by omega) okS_nil)) (hpw _)) (fun _ => okS_nil)))
        (okS_flat_rep _ (hpw _))) (okS_ite (fun _ => okS_cons (by omega) okS_nil) (fun _ => okS_nil))

end BVM
