/-
  Proofs/Fixed.lean — each expansion stage is the identity on a document that is already effective: the traversal
  combinators where their function is, the inclusion stage on a node without `$include` (`includeFree`), the two alias
  stages on a trace type without alias properties; `Effective` collects the hypotheses of the fixed point (Props/C11).
  For the marks of what `expand3` returns (also Props/C11): inversion of a successful run, and the key list of the trace
  type through each stage (`*_keys`).
-/
import BVM.Proofs.Comb
namespace BVM

theorem modKey_id (k : String) (f : Y → FR Y) (m : KVs) (h : ∀ v, kvGet k m = some v → f v = .ok v) :
    modKey k f m = .ok m := by
  rw [modKey_eq]
  split
  · rfl
  · rw [h _ ‹_›, Except.ok_bind, kvSet_of_get ‹_›]

theorem mapVals_id (f : String → Y → FR Y) : ∀ m : KVs, (∀ kv ∈ m, f kv.1 kv.2 = .ok kv.2) → mapVals f m = .ok m
  | [], _ => rfl
  | (k, v) :: r, h => by
    rw [mapVals, h (k, v) List.mem_cons_self, mapVals_id f r fun kv hkv => h kv (List.mem_cons_of_mem _ hkv)]
    rfl

/-- no `$include` property at any includable object reachable from a node of kind `kd`
    (`d` bounds the nesting of includable kinds: trace > trace type > data stream type > event record type; it is
    also all the fuel `procInclude_free` needs, hence `false` at 0) -/
def includeFree : Nat → Kind → Y → Bool
  | 0, _, _ => false
  | d + 1, kd, .map m =>
    !(kvHas "$include" m) && kd.children.all fun cs =>
      match kvGet cs.1 m with
      | none => true
      | some v =>
        match cs.2 with
        | .single k' => includeFree d k' v
        | .each k' => match v with
          | .map cm => cm.all fun kv => includeFree d k' kv.2
          | _ => false
  | _ + 1, _, _ => false

theorem foldlM_childStep_id (rec : Kind → Y → FR Y) (m : KVs) :
    ∀ cs : List (String × ChildSpec), (∀ c ∈ cs, childStep rec m c = .ok m) → cs.foldlM (childStep rec) m = .ok m
  | [], _ => rfl
  | c :: r, h => by
    rw [List.foldlM_cons, h c List.mem_cons_self, Except.ok_bind]
    exact foldlM_childStep_id rec m r fun c' hc' => h c' (List.mem_cons_of_mem _ hc')

theorem procInclude_free (W : World) : ∀ (fuel : Nat) (stack : Stack) (kd : Kind) (y : Y),
    includeFree fuel kd y = true → procInclude W fuel stack kd y = .ok y
  | fuel + 1, stack, kd, .map m, h => by
    simp only [includeFree, Bool.and_eq_true, Bool.not_eq_true', List.all_eq_true] at h
    obtain ⟨hinc, hch⟩ := h
    have hnone : kvGet "$include" m = none := by
      cases hg : kvGet "$include" m with
      | none => rfl
      | some v => rw [kvHas, hg] at hinc; cases hinc
    have hfold : kd.children.foldlM (childStep (fun k' c => procInclude W fuel stack k' c)) m = .ok m := by
      refine foldlM_childStep_id _ m _ fun c hc => ?_
      rw [childStep_eq]
      refine modKey_id _ _ m fun v hv => ?_
      have hc' := hch c hc
      rw [hv] at hc'
      obtain ⟨key, spec⟩ := c
      cases spec with
      | single k' => exact procInclude_free W fuel stack k' v hc'
      | each k' =>
        cases v with
        | map cm =>
          simp only [List.all_eq_true] at hc'
          have := mapVals_id (fun _ c => procInclude W fuel stack k' c) cm
            fun kv hkv => procInclude_free W fuel stack k' kv.2 (hc' kv hkv)
          simp only [childFn, this, Except.ok_bind]
        | _ => cases hc'
    rw [procInclude, hfold, Except.ok_bind, hnone]

theorem includeFree_mono : ∀ (d : Nat) (kd : Kind) (y : Y), includeFree d kd y = true → includeFree (d + 1) kd y = true
  | 0, _, _, h => by simp [includeFree] at h
  | d + 1, kd, y, h => by
    cases y with
    | map m =>
      simp only [includeFree, Bool.and_eq_true, List.all_eq_true] at h ⊢
      refine ⟨h.1, fun cs hcs => ?_⟩
      have hc := h.2 cs hcs
      cases hg : kvGet cs.1 m with
      | none => simp
      | some v =>
        simp only [hg] at hc ⊢
        cases hs : cs.2 with
        | single k' => simp only [hs] at hc ⊢; exact includeFree_mono d k' v hc
        | each k' =>
          simp only [hs] at hc ⊢
          cases v with
          | map cm =>
            simp only [List.all_eq_true] at hc ⊢
            exact fun kv hkv => includeFree_mono d k' kv.2 (hc kv hkv)
          | _ => simp at hc
    | _ => simp [includeFree] at h

theorem includeFree_le (d d' : Nat) (kd : Kind) (y : Y) (hle : d ≤ d') (h : includeFree d kd y = true) :
    includeFree d' kd y = true := by
  induction hle with
  | refl => exact h
  | step _ ih => exact includeFree_mono _ kd y ih

/-! ### the later stages on an effective trace type -/

theorem expandFts3_noalias (fuel : Nat) (tt : KVs) (h : kvGet "$field-type-aliases" tt = none) :
    expandFts3 fuel tt = .ok tt := by
  simp [expandFts3, kvGetNN, h, kvErase_of_get_none h]

theorem subLogLevels_noalias (tt : KVs) (h : kvGet "$log-level-aliases" tt = none) : subLogLevels tt = .ok tt := by
  simp [subLogLevels, kvGetNN, h, kvErase_of_get_none h]

/-- the marks of an effective configuration node (decidable parts) -/
structure Effective (cfg trm tt : KVs) (bo : Y) : Prop where
  htrace : kvGet "trace" cfg = some (.map trm)
  htype : kvGet "type" trm = some (.map tt)
  hinc : includeFree 4 .trace (.map trm) = true
  hfta : kvGet "$field-type-aliases" tt = none
  hlla : kvGet "$log-level-aliases" tt = none
  hbo : kvGet (traceByteOrderKey tt) tt = some bo
  hbon : normByteOrder bo = bo
  hnorm : normPropsM tt = tt
  henv : kvGet "environment" trm ≠ some .null

theorem expand3_ok {W : World} {fuel : Nat} {cfg e : KVs} (h : expand3 W fuel cfg = .ok e) :
    ∃ tr trm tt tt1 tt2 trm2,
      kvGet "trace" cfg = some tr ∧ procInclude W fuel [] .trace tr = .ok (.map trm) ∧
      kvGet "type" trm = some (.map tt) ∧ expandFts3 fuel tt = .ok tt1 ∧ subLogLevels tt1 = .ok tt2 ∧
      normalizeTrace (kvSet "type" (.map tt2) trm) = .ok trm2 ∧ e = kvSet "trace" (.map trm2) cfg := by
  unfold expand3 at h
  split at h
  · cases h
  · obtain ⟨tr1, h0, h⟩ := Except.bind_eq_ok.mp h
    split at h
    · split at h
      · obtain ⟨tt1, h1, h⟩ := Except.bind_eq_ok.mp h
        obtain ⟨tt2, h2, h⟩ := Except.bind_eq_ok.mp h
        obtain ⟨trm2, h3, h⟩ := Except.bind_eq_ok.mp h
        cases h
        exact ⟨_, _, _, _, _, _, ‹_›, h0, ‹_›, h1, h2, h3, rfl⟩
      · cases h
    · cases h

/-- what `normalizeTrace` returns: the trace type normalised under its byte order key, no `null` environment -/
theorem normalizeTrace_ok {trace trace' : KVs} (h : normalizeTrace trace = .ok trace') :
    ∃ tt bo, kvGet "type" trace = some (.map tt) ∧ kvGet (traceByteOrderKey tt) tt = some bo ∧
      kvGet "type" trace' = some (.map (normPropsM (kvSet (traceByteOrderKey tt) (normByteOrder bo) tt))) ∧
      kvGet "environment" trace' ≠ some .null := by
  unfold normalizeTrace at h
  split at h
  · dsimp only at h
    split at h
    · cases h
    · cases h
      refine ⟨_, _, ‹_›, ‹_›, ?_⟩
      split
      · rw [kvGet_kvErase, if_neg (by simp), kvGet_kvSet, if_pos rfl, kvGet_kvErase, if_pos rfl]
        exact ⟨rfl, nofun⟩
      · rename_i hne
        exact ⟨by rw [kvGet_kvSet, if_pos rfl], hne⟩
  · cases h

/-! the traversals of the trace type keep its key list, and absence of a property is read off the key list
    (`kvGet_none_congr`) -/

theorem overSlots3_keys {σ : Type} {g : Y → Bool} {f em : σ → Y → FR (Y × σ)} {s s' : σ} {tt tt' : KVs}
    (h : overSlots3 g f em s tt = .ok (tt', s')) : kvKeys tt' = kvKeys tt := by
  obtain ⟨⟨tt1, s1⟩, h1, h2⟩ := Except.bind_eq_ok.mp h
  exact (modKeyS_keys h2).trans (modKeyS_keys h1)

theorem normalizeMembers3_keys {fuel : Nat} {tt tt' : KVs} (h : normalizeMembers3 fuel tt = .ok tt') :
    kvKeys tt' = kvKeys tt := by
  obtain ⟨tt1, h1, h2⟩ := Except.bind_eq_ok.mp h
  obtain ⟨⟨tt2, _⟩, h2, h3⟩ := Except.bind_eq_ok.mp h2
  cases h3
  exact (overSlots3_keys h2).trans (modKey_keys h1)

/-- the trace type keeps its keys through field type expansion, `$field-type-aliases` apart -/
theorem expandFts3_keys {fuel : Nat} {tt tt' : KVs} (h : expandFts3 fuel tt = .ok tt') :
    kvKeys tt' = kvKeys (kvErase "$field-type-aliases" tt) := by
  unfold expandFts3 at h
  split at h
  · cases h; rfl
  · obtain ⟨tt1, h1, h⟩ := Except.bind_eq_ok.mp h
    obtain ⟨⟨tt2, st2⟩, h2, h⟩ := Except.bind_eq_ok.mp h
    obtain ⟨_, _, h⟩ := Except.bind_eq_ok.mp h
    obtain ⟨⟨tt4, _⟩, h4, h⟩ := Except.bind_eq_ok.mp h
    cases h
    rw [overSlots3_keys h4, kvKeys_kvErase, overSlots3_keys h2, normalizeMembers3_keys h1, kvKeys_kvErase]
  · cases h

theorem subLogLevels_keys {tt tt' : KVs} (h : subLogLevels tt = .ok tt') :
    kvKeys tt' = kvKeys (kvErase "$log-level-aliases" tt) := by
  unfold subLogLevels at h
  split at h
  · cases h; rfl
  · exact modKey_keys h
  · cases h

theorem expandFts3_keeps_none (fuel : Nat) (tt tt' : KVs) (k2 : String) (h : expandFts3 fuel tt = .ok tt')
    (hn : kvGet k2 tt = none) : kvGet k2 tt' = none := by
  rw [kvGet_none_congr (expandFts3_keys h), kvGet_kvErase]
  split
  · rfl
  · exact hn

end BVM
