/-
  Proofs/Align.lean — rounding up to a multiple: the reader's `alignNat`, the tracer's `_ALIGN` in `uint32_t`
  (`alignUp`) and the builder's `pyAlign`, and powers of two as alignments.
-/
import BVM.Model.Tsdl
namespace BVM

theorem pow2_dvd_of_le {a b : Nat} (ha : ∃ i, a = 2 ^ i) (hb : ∃ j, b = 2 ^ j) (hle : a ≤ b) : ∃ c, b = c * a := by
  obtain ⟨i, rfl⟩ := ha
  obtain ⟨j, rfl⟩ := hb
  have hij : i ≤ j := (Nat.pow_le_pow_iff_right (by decide : 1 < 2)).mp hle
  exact ⟨2 ^ (j - i), by rw [← Nat.pow_add]; congr 1; omega⟩

theorem pow2_cases (j : Nat) : (2 : Nat) ^ j = 1 ∨ (2 : Nat) ^ j = 2 ∨ (2 : Nat) ^ j = 4 ∨ (2 : Nat) ^ j % 8 = 0 := by
  match j with
  | 0 => simp
  | 1 => simp
  | 2 => simp
  | j + 3 => right; right; right; rw [Nat.pow_add]; simp

theorem mul_mod8_of (q al : Nat) (h : al % 8 = 0) : (q * al) % 8 = 0 := by
  rw [Nat.mul_mod, h]; simp

theorem alignUp_mod8 (a al : Nat) (h : al % 8 = 0) : alignUp a al % 8 = 0 := mul_mod8_of _ _ h
theorem pyAlign_mod8 (k al : Nat) (h : al % 8 = 0) : pyAlign k al % 8 = 0 := mul_mod8_of _ _ h
theorem alignNat_mod8 (a al : Nat) (h : al % 8 = 0) : alignNat a al % 8 = 0 := mul_mod8_of _ _ h

theorem alignNat_ge (a al : Nat) (hal : 0 < al) : a ≤ alignNat a al := by
  unfold alignNat
  have h1 := Nat.div_add_mod (a + (al - 1)) al
  have h2 := Nat.mod_lt (a + (al - 1)) hal
  rw [Nat.mul_comm] at h1
  omega

theorem alignNat_lt (a al : Nat) (hal : 0 < al) : alignNat a al < a + al := by
  unfold alignNat
  have h1 := Nat.div_add_mod (a + (al - 1)) al
  rw [Nat.mul_comm] at h1
  omega

theorem alignNat_le_mult (a al m : Nat) (hal : 0 < al) (h : a ≤ m * al) : alignNat a al ≤ m * al := by
  unfold alignNat
  apply Nat.mul_le_mul_right
  have : a + (al - 1) < (m + 1) * al := by rw [Nat.add_mul]; omega
  exact Nat.lt_succ_iff.mp ((Nat.div_lt_iff_lt_mul hal).mpr this)

theorem alignNat_idem (a al : Nat) (hal : 0 < al) : alignNat (alignNat a al) al = alignNat a al :=
  Nat.le_antisymm (alignNat_le_mult _ al _ hal (Nat.le_refl _)) (alignNat_ge _ _ hal)

theorem alignNat_one (a : Nat) : alignNat a 1 = a := by simp [alignNat]

/-- while nothing wraps, `_ALIGN` is rounding up -/
theorem alignUp_eq (a al : Nat) (h : a + (al - 1) < 2 ^ 32) : alignUp a al = alignNat a al := by
  unfold alignUp alignNat; rw [Nat.mod_eq_of_lt h]

theorem foldl_max_ge (f : Member → Nat) : ∀ (ms : List Member) (a : Nat),
    a ≤ ms.foldl (fun a m => max a (f m)) a ∧ ∀ m ∈ ms, f m ≤ ms.foldl (fun a m => max a (f m)) a
  | [], a => ⟨Nat.le_refl _, fun _ h => by simp at h⟩
  | m :: ms, a => by
    obtain ⟨h1, h2⟩ := foldl_max_ge f ms (max a (f m))
    simp only [List.foldl_cons]
    refine ⟨by omega, fun m' hm' => ?_⟩
    rcases List.mem_cons.mp hm' with e | e
    · subst e; omega
    · exact h2 m' e

theorem member_align_le (S : Struct) (m : Member) (hm : m ∈ S.members) : m.ft.align ≤ S.align :=
  (foldl_max_ge (fun m => m.ft.align) S.members S.minAlign).2 m hm

end BVM
