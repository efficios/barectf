/-
  Proofs/Expand.lean — the expansion stages (Model/Expand.lean).  The search order of the inclusion directories.  The loop
  over the inclusion paths is `loadBases` (process the listed files) followed by `foldBases` (patch them in that order):
  Props/C12 states the order of inclusion in these terms.  One step of alias resolution.  Property normalisation is
  idempotent and leaves no `null`; a spelling table is idempotent because it sends its entries outside itself
  (`idem_of_table`).  Outcomes of closed runs as decidable tests (`FR.isOkWith`, `FR.isErr`), for the examples of the
  Props files.
-/
import BVM.Model.Expand
import BVM.Proofs.Comb
namespace BVM

/-! ### search order -/

theorem findInDirs_shift (p : String) (ds : List (List (String × Y))) (i : Nat) :
    findInDirs p ds (i + 1) = (findInDirs p ds i).map fun r => (r.1 + 1, r.2) := by
  induction ds generalizing i with
  | nil => rfl
  | cons d r ih =>
    simp only [findInDirs]
    cases kvGet p d <;> simp [ih]

theorem findInDirs_none (p : String) (ds : List (List (String × Y))) (i : Nat)
    (h : ∀ d ∈ ds, kvGet p d = none) : findInDirs p ds i = none := by
  induction ds generalizing i with
  | nil => rfl
  | cons d r ih =>
    simp only [findInDirs, h d (by simp)]
    exact ih _ (fun d' hd => h d' (by simp [hd]))

/-! ### the loop over the inclusion paths -/

/-- the effective nodes of the listed files, in order (missing files are skipped when the parser
    ignores them) -/
def loadBases (rec : Stack → Y → FR Y) (W : World) (stack : Stack) : List String → FR (List Y)
  | [] => .ok []
  | p :: r =>
    match findInDirs p W.dirs 0 with
    | none => if W.ignoreNotFound then loadBases rec W stack r else .error (.includeNotFound p)
    | some (di, content) =>
      if stack.contains (di, p) then .error (.includeCycle p) else do
      let ov ← rec ((di, p) :: stack) content
      let rest ← loadBases rec W stack r
      .ok (ov :: rest)

/-- bases applied in the order listed -/
def foldBases (v3 : Bool) (acc : Option Y) (es : List Y) : Option Y :=
  es.foldl (fun a e => some (match a with | none => e | some b => patchNode v3 b e)) acc

theorem foldlM_inclStep (rec : Stack → Y → FR Y) (W : World) (stack : Stack) (v3 : Bool) (paths : List String) :
    ∀ acc : Option Y, paths.foldlM (inclStep rec W stack v3) acc =
      (loadBases rec W stack paths).map (foldBases v3 acc) := by
  induction paths with
  | nil => intro acc; rfl
  | cons p r ih =>
    intro acc
    rw [List.foldlM_cons, loadBases, inclStep]
    cases findInDirs p W.dirs 0 with
    | none =>
      cases W.ignoreNotFound with
      | false => rfl
      | true => exact ih acc
    | some fc =>
      obtain ⟨di, content⟩ := fc
      by_cases hc : stack.contains (di, p) = true
      · simp only [if_pos hc]; rfl
      · simp only [if_neg hc]
        cases rec ((di, p) :: stack) content with
        | error e => rfl
        | ok ov =>
          cases acc with
          | none => rw [Except.ok_bind, Except.ok_bind, ih]; cases loadBases rec W stack r <;> rfl
          | some b => rw [Except.ok_bind, Except.ok_bind, ih]; cases loadBases rec W stack r <;> rfl

/-! ### aliases -/

theorem resolveVal_alias_step (v3 : Bool) (fuel : Nat) (st : ASt) (a : String) (av av' : Y) (st2 : ASt)
    (hget : kvGet a st.aliases = some av) (hres : a ∉ st.resolved)
    (hset : a ∉ st.aset)
    (hrec : resolveVal v3 fuel { st with aset := a :: st.aset } av = .ok (av', st2)) :
    resolveVal v3 (fuel + 1) st (.str a) =
      .ok (av', { st2 with aliases := kvSet a av' st2.aliases, resolved := a :: st2.resolved }) := by
  simp [resolveVal, hget, hres, hset, hrec, bind, Except.bind]

theorem resolveVal_resolved (v3 : Bool) (fuel : Nat) (st : ASt) (a : String) (av : Y)
    (hget : kvGet a st.aliases = some av) (hres : a ∈ st.resolved) :
    resolveVal v3 (fuel + 1) st (.str a) = .ok (av, st) := by
  simp [resolveVal, hget, hres]

/-! ### property normalisation -/

/-- a spelling table: `f` leaves everything outside `T` alone and sends `T` outside `T` -/
theorem idem_of_table (f : String → String) (T : List String) (h1 : ∀ s, s ∉ T → f s = s)
    (h2 : ∀ a ∈ T, f a ∉ T) (s : String) : f (f s) = f s := by
  by_cases h : s ∈ T
  · exact h1 _ (h2 s h)
  · rw [h1 s h, h1 s h]

theorem normClass_idem (s : String) : normClass (normClass s) = normClass s := by
  refine idem_of_table normClass
    ["uint", "unsigned-int", "sint", "signed-int", "uenum", "unsigned-enum", "senum", "signed-enum", "str", "struct"]
    (fun s h => ?_) (by decide +kernel) s
  unfold normClass
  split <;> first | rfl | simp at h

theorem normBase_idem (s : String) : normBase (normBase s) = normBase s := by
  refine idem_of_table normBase ["bin", "oct", "dec", "hex"] (fun s h => ?_) (by decide +kernel) s
  unfold normBase
  split <;> first | rfl | simp at h

theorem normScalarProp_idem (k : String) (y : Y) : normScalarProp k (normScalarProp k y) = normScalarProp k y := by
  cases y <;> try rfl
  rename_i s
  by_cases h1 : k = "class"
  · simp only [normScalarProp, if_pos h1, normClass_idem]
  · by_cases h2 : k = "preferred-display-base"
    · simp only [normScalarProp, if_neg h1, if_pos h2, normBase_idem]
    · simp only [normScalarProp, if_neg h1, if_neg h2]

theorem normScalarProp_null_iff (k : String) (y : Y) : normScalarProp k y = .null ↔ y = .null := by
  cases y <;> simp [normScalarProp]
  rename_i s
  split <;> (try split) <;> simp

/-- `normScalarProp` only rewrites strings, which `normProps` leaves alone -/
theorem normProps_normScalarProp (k : String) (y : Y) : normProps (normScalarProp k y) = normScalarProp k (normProps y) := by
  cases y <;> try (simp only [normProps, normScalarProp])
  split
  · rfl
  · split <;> rfl

theorem normProps_ne_null : ∀ y : Y, y ≠ .null → normProps y ≠ .null
  | .null, h => absurd rfl h
  | .bool _, _ | .int _, _ | .float _, _ | .str _, _ | .seq _, _ | .map _, _ => by simp [normProps]

theorem normScalarProp_normProps_ne_null (k : String) {v : Y} (h : v ≠ .null) : normScalarProp k (normProps v) ≠ .null :=
  fun e => normProps_ne_null v h ((normScalarProp_null_iff k _).mp e)

/-! `normPropsM`, equation by equation: a `null` property goes, any other is normalised -/

theorem normPropsM_cons_null (k : String) (r : KVs) : normPropsM ((k, .null) :: r) = normPropsM r := by
  rw [normPropsM]

theorem normPropsM_cons (k : String) {v : Y} (r : KVs) (h : v ≠ .null) :
    normPropsM ((k, v) :: r) = (k, normScalarProp k (normProps v)) :: normPropsM r := by
  cases v <;> first | exact absurd rfl h | simp only [normPropsM]

mutual
theorem normProps_idem : ∀ y : Y, normProps (normProps y) = normProps y
  | .null | .bool _ | .int _ | .float _ | .str _ => by simp [normProps]
  | .seq xs => by simp only [normProps, normPropsL_idem xs]
  | .map m => by simp only [normProps, normPropsM_idem m]
theorem normPropsM_idem : ∀ m : KVs, normPropsM (normPropsM m) = normPropsM m
  | [] => by simp [normPropsM]
  | (k, v) :: r => by
    rcases Decidable.em (v = .null) with rfl | h
    · rw [normPropsM_cons_null]; exact normPropsM_idem r
    · rw [normPropsM_cons k r h, normPropsM_cons k _ (normScalarProp_normProps_ne_null k h), normPropsM_idem r,
        normProps_normScalarProp, normProps_idem v, normScalarProp_idem]
theorem normPropsL_idem : ∀ xs : List Y, normPropsL (normPropsL xs) = normPropsL xs
  | [] => by simp [normPropsL]
  | x :: r => by simp [normPropsL]; exact ⟨normProps_idem x, normPropsL_idem r⟩
end

/-- no `null`-valued property is left at the top level of a normalised mapping -/
theorem normPropsM_no_null (k : String) : ∀ m : KVs, kvGet k (normPropsM m) ≠ some .null
  | [] => nofun
  | (k', v) :: r => by
    rcases Decidable.em (v = .null) with rfl | h
    · rw [normPropsM_cons_null]; exact normPropsM_no_null k r
    · rw [normPropsM_cons k' r h, kvGet_cons]
      split
      · exact fun e => normScalarProp_normProps_ne_null k' h (Option.some.inj e)
      · exact normPropsM_no_null k r

theorem kvKeys_normPropsM_sublist : ∀ m : KVs, List.Sublist (kvKeys (normPropsM m)) (kvKeys m)
  | [] => .slnil
  | (k, v) :: r => by
    rcases Decidable.em (v = .null) with rfl | h
    · rw [normPropsM_cons_null]; exact (kvKeys_normPropsM_sublist r).cons _
    · rw [normPropsM_cons k r h]; exact (kvKeys_normPropsM_sublist r).cons_cons _

theorem normPropsM_keeps_none {k : String} {m : KVs} (h : kvGet k m = none) : kvGet k (normPropsM m) = none :=
  kvGet_eq_none_iff.mpr fun hin => kvGet_eq_none_iff.mp h ((kvKeys_normPropsM_sublist m).subset hin)

/-- a property reset with `null` is absent after normalisation (keys of a loaded mapping are distinct) -/
theorem normPropsM_null_removed (k : String) : ∀ m : KVs, (kvKeys m).Nodup → kvGet k m = some .null →
    kvGet k (normPropsM m) = none
  | (k', v) :: r, hnd, h => by
    obtain ⟨hk', hnd'⟩ := List.nodup_cons.mp hnd
    rw [kvGet_cons] at h
    split at h
    · cases h
      subst_vars
      rw [normPropsM_cons_null]
      exact normPropsM_keeps_none (kvGet_eq_none_iff.mpr hk')
    · have ih := normPropsM_null_removed k r hnd' h
      rcases Decidable.em (v = .null) with rfl | hv
      · rwa [normPropsM_cons_null]
      · rw [normPropsM_cons k' r hv, kvGet_cons, if_neg ‹_›]; exact ih

end BVM
