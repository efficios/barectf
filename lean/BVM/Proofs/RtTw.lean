/-
  Proofs/RtTw.lean — "tweak" calculus for C07 atomicity: a state up to its enable flag and toggle script.
  First part generated (all by rfl).
-/
import BVM.Proofs.RtFlag
namespace BVM

/-- `s` with another value of the enable flag and another toggle script -/
def St.tw (s : St) (b : Bool) (t : List (Nat × Bool)) : St :=
  { s with c := { s.c with isTracingEnabled := b }, p := { s.p with toggles := t } }

@[simp] theorem St.tw_c_packetSize (s : St) (b : Bool) (t : List (Nat × Bool)) : (s.tw b t).c.packetSize = s.c.packetSize := rfl
@[simp] theorem St.tw_c_contentSize (s : St) (b : Bool) (t : List (Nat × Bool)) : (s.tw b t).c.contentSize = s.c.contentSize := rfl
@[simp] theorem St.tw_c_at_ (s : St) (b : Bool) (t : List (Nat × Bool)) : (s.tw b t).c.at_ = s.c.at_ := rfl
@[simp] theorem St.tw_c_offContent (s : St) (b : Bool) (t : List (Nat × Bool)) : (s.tw b t).c.offContent = s.c.offContent := rfl
@[simp] theorem St.tw_c_eventsDiscarded (s : St) (b : Bool) (t : List (Nat × Bool)) : (s.tw b t).c.eventsDiscarded = s.c.eventsDiscarded := rfl
@[simp] theorem St.tw_c_sequenceNumber (s : St) (b : Bool) (t : List (Nat × Bool)) : (s.tw b t).c.sequenceNumber = s.c.sequenceNumber := rfl
@[simp] theorem St.tw_c_packetIsOpen (s : St) (b : Bool) (t : List (Nat × Bool)) : (s.tw b t).c.packetIsOpen = s.c.packetIsOpen := rfl
@[simp] theorem St.tw_c_inTracingSection (s : St) (b : Bool) (t : List (Nat × Bool)) : (s.tw b t).c.inTracingSection = s.c.inTracingSection := rfl
@[simp] theorem St.tw_c_useCurLastEventTs (s : St) (b : Bool) (t : List (Nat × Bool)) : (s.tw b t).c.useCurLastEventTs = s.c.useCurLastEventTs := rfl
@[simp] theorem St.tw_c_curLastEventTs (s : St) (b : Bool) (t : List (Nat × Bool)) : (s.tw b t).c.curLastEventTs = s.c.curLastEventTs := rfl
@[simp] theorem St.tw_c_saved (s : St) (b : Bool) (t : List (Nat × Bool)) : (s.tw b t).c.saved = s.c.saved := rfl
@[simp] theorem St.tw_c_isTracingEnabled (s : St) (b : Bool) (t : List (Nat × Bool)) : (s.tw b t).c.isTracingEnabled = b := rfl
@[simp] theorem St.tw_p_cbSeq (s : St) (b : Bool) (t : List (Nat × Bool)) : (s.tw b t).p.cbSeq = s.p.cbSeq := rfl
@[simp] theorem St.tw_p_clock (s : St) (b : Bool) (t : List (Nat × Bool)) : (s.tw b t).p.clock = s.p.clock := rfl
@[simp] theorem St.tw_p_clockIncs (s : St) (b : Bool) (t : List (Nat × Bool)) : (s.tw b t).p.clockIncs = s.p.clockIncs := rfl
@[simp] theorem St.tw_p_fullAnswers (s : St) (b : Bool) (t : List (Nat × Bool)) : (s.tw b t).p.fullAnswers = s.p.fullAnswers := rfl
@[simp] theorem St.tw_p_setBufs (s : St) (b : Bool) (t : List (Nat × Bool)) : (s.tw b t).p.setBufs = s.p.setBufs := rfl
@[simp] theorem St.tw_p_closeCount (s : St) (b : Bool) (t : List (Nat × Bool)) : (s.tw b t).p.closeCount = s.p.closeCount := rfl
@[simp] theorem St.tw_p_openCount (s : St) (b : Bool) (t : List (Nat × Bool)) : (s.tw b t).p.openCount = s.p.openCount := rfl
@[simp] theorem St.tw_p_openArgs (s : St) (b : Bool) (t : List (Nat × Bool)) : (s.tw b t).p.openArgs = s.p.openArgs := rfl
@[simp] theorem St.tw_p_toggles (s : St) (b : Bool) (t : List (Nat × Bool)) : (s.tw b t).p.toggles = t := rfl
@[simp] theorem St.tw_buf (s : St) (b : Bool) (t : List (Nat × Bool)) : (s.tw b t).buf = s.buf := rfl
@[simp] theorem St.tw_log (s : St) (b : Bool) (t : List (Nat × Bool)) : (s.tw b t).log = s.log := rfl
@[simp] theorem St.tw_halted (s : St) (b : Bool) (t : List (Nat × Bool)) : (s.tw b t).halted = s.halted := rfl
theorem St.tw_setFlag (s : St) (b : Bool) (t : List (Nat × Bool)) (x : Bool) : (s.tw b t).setFlag x = (s.setFlag x).tw b t := rfl
theorem St.tw_setUseCur (s : St) (b : Bool) (t : List (Nat × Bool)) (x : Bool) : (s.tw b t).setUseCur x = (s.setUseCur x).tw b t := rfl
theorem St.tw_setCurTs (s : St) (b : Bool) (t : List (Nat × Bool)) (x : Nat) : (s.tw b t).setCurTs x = (s.setCurTs x).tw b t := rfl
theorem St.tw_setAt (s : St) (b : Bool) (t : List (Nat × Bool)) (x : Nat) : (s.tw b t).setAt x = (s.setAt x).tw b t := rfl
theorem St.tw_setOpen (s : St) (b : Bool) (t : List (Nat × Bool)) (x : Bool) : (s.tw b t).setOpen x = (s.setOpen x).tw b t := rfl
theorem St.tw_setOffContent (s : St) (b : Bool) (t : List (Nat × Bool)) (x : Nat) : (s.tw b t).setOffContent x = (s.setOffContent x).tw b t := rfl
theorem St.tw_setContentSize (s : St) (b : Bool) (t : List (Nat × Bool)) (x : Nat) : (s.tw b t).setContentSize x = (s.setContentSize x).tw b t := rfl
theorem St.tw_setSeqNum (s : St) (b : Bool) (t : List (Nat × Bool)) (x : Nat) : (s.tw b t).setSeqNum x = (s.setSeqNum x).tw b t := rfl
theorem St.tw_setDiscarded (s : St) (b : Bool) (t : List (Nat × Bool)) (x : Nat) : (s.tw b t).setDiscarded x = (s.setDiscarded x).tw b t := rfl
theorem St.tw_setPacketSize (s : St) (b : Bool) (t : List (Nat × Bool)) (x : Nat) : (s.tw b t).setPacketSize x = (s.setPacketSize x).tw b t := rfl
theorem St.tw_ev (s : St) (b : Bool) (t : List (Nat × Bool)) (e : Ev) : (s.tw b t).ev e = (s.ev e).tw b t := rfl
theorem St.tw_halt (s : St) (b : Bool) (t : List (Nat × Bool)) : (s.tw b t).halt = s.halt.tw b t := rfl
theorem St.tw_tw (s : St) (b b2 : Bool) (t t2 : List (Nat × Bool)) : (s.tw b t).tw b2 t2 = s.tw b2 t2 := rfl
theorem St.tw_setEnabled (s : St) (b x : Bool) (t : List (Nat × Bool)) : (s.tw b t).setEnabled x = s.tw x t := rfl
theorem St.setEnabled_tw (s : St) (b x : Bool) (t : List (Nat × Bool)) : (s.setEnabled x).tw b t = s.tw b t := rfl
theorem St.tw_setSer (s : St) (b : Bool) (t : List (Nat × Bool)) (bf : Buf) (a : Nat) (sv : List (String × Nat)) (evs : List Ev) : (s.tw b t).setSer bf a sv evs = (s.setSer bf a sv evs).tw b t := rfl

theorem St.tw_bumpOpen (s : St) (b : Bool) (t : List (Nat × Bool)) : (s.tw b t).bumpOpen = s.bumpOpen.tw b t := rfl
theorem St.tw_bumpClose (s : St) (b : Bool) (t : List (Nat × Bool)) : (s.tw b t).bumpClose = s.bumpClose.tw b t := rfl
theorem St.tw_openArgsNow (s : St) (b : Bool) (t : List (Nat × Bool)) : (s.tw b t).openArgsNow = s.openArgsNow := rfl


/-! ### every function run inside a tracing section commutes with `tw`

  A callback entry may toggle the enable flag, so the result carries some other value `b'` of it.  The enable flag
  is read by the first guard of the opening and of the closing function only, and that guard passes when the
  in-tracing-section flag is up: hence the hypothesis `s.c.inTracingSection = true` from there on. -/

/-- an answer and a state, the state with another enable flag and toggle script -/
def twR {α : Type} (r : α × St) (b : Bool) (t : List (Nat × Bool)) : α × St := (r.1, r.2.tw b t)

@[simp] theorem twR_fst {α : Type} (r : α × St) (b : Bool) (t : List (Nat × Bool)) : (twR r b t).1 = r.1 := rfl
@[simp] theorem twR_snd {α : Type} (r : α × St) (b : Bool) (t : List (Nat × Bool)) : (twR r b t).2 = r.2.tw b t := rfl

/-- the two runs test the same condition -/
theorem ite_tw {α : Type} {c : Prop} [Decidable c] (F : α → Bool → α) {x y x' y' : α}
    (hx : c → ∃ b, x' = F x b) (hy : ¬c → ∃ b, y' = F y b) :
    ∃ b, (if c then x' else y') = F (if c then x else y) b := by
  by_cases h : c
  · simp only [if_pos h]
    exact hx h
  · simp only [if_neg h]
    exact hy h

theorem cbEnter_tw (k : CbKind) (s : St) (b : Bool) (t : List (Nat × Bool)) :
    ∃ b', cbEnter k (s.tw b t) = (cbEnter k s).tw b' t := by
  unfold cbEnter
  simp only
  cases h1 : t.lookup s.p.cbSeq <;> cases h2 : s.p.toggles.lookup s.p.cbSeq
  all_goals (simp only [St.tw, St.ev, St.setPlat, St.setEnabled, h1, h2]; exact ⟨_, rfl⟩)

theorem cbClock_tw (clk : Clock) (s : St) (b : Bool) (t : List (Nat × Bool)) :
    ∃ b', cbClock clk (s.tw b t) = twR (cbClock clk s) b' t := by
  obtain ⟨b1, e1⟩ := cbEnter_tw .clock s b t
  unfold cbClock
  rw [e1]
  generalize cbEnter .clock s = s1
  exact ⟨b1, rfl⟩

theorem cbFull_tw (s : St) (b : Bool) (t : List (Nat × Bool)) :
    ∃ b', cbFull (s.tw b t) = twR (cbFull s) b' t := by
  obtain ⟨b1, e1⟩ := cbEnter_tw .full s b t
  unfold cbFull
  rw [e1]
  generalize cbEnter .full s = s1
  exact ⟨b1, rfl⟩

theorem installSer_tw (r : SerSt) (s : St) (b : Bool) (t : List (Nat × Bool)) :
    installSer r (s.tw b t) = (installSer r s).tw b t := by
  unfold installSer
  cases r.oob <;> rfl

theorem runSer_tw (f : SerSt → SerSt) (s : St) (b : Bool) (t : List (Nat × Bool)) :
    runSer f (s.tw b t) = (runSer f s).tw b t :=
  installSer_tw _ s b t

theorem preambleTs_tw (d : DST) (ft : Option Scalar) (s : St) (b : Bool) (t : List (Nat × Bool)) :
    ∃ b', preambleTs d ft (s.tw b t) = twR (preambleTs d ft s) b' t := by
  unfold preambleTs
  split
  · simp only [St.tw_c_useCurLastEventTs, St.tw_c_curLastEventTs]
    exact ite_tw (twR · · t) (fun _ => ⟨b, rfl⟩) fun _ => cbClock_tw _ s b t
  · exact ⟨b, rfl⟩

theorem serEnvOf_tw (cfg : Cfg) (d : DST) (i ts : Nat) (s : St) (b : Bool) (t : List (Nat × Bool)) :
    serEnvOf cfg d i ts (s.tw b t).c = serEnvOf cfg d i ts s.c := rfl

variable (cfg : Cfg) (d : DST)

theorem openWrite_tw (args : Args) (ts : Nat) (saved : Bool) (s : St) (b : Bool) (t : List (Nat × Bool)) :
    openWrite cfg d args ts saved (s.tw b t) = (openWrite cfg d args ts saved s).tw b t := by
  unfold openWrite
  simp only [St.tw_setAt, serEnvOf_tw, runSer_tw, St.tw_halted]
  -- left in place, the serialisation pass is unfolded by each `rfl` below
  generalize runSer _ (s.setAt 0) = s2
  split
  · rfl
  · split <;> rfl

theorem openGuarded_tw (args : Args) (ts : Nat) (s : St) (b : Bool) (t : List (Nat × Bool))
    (h : s.c.inTracingSection = true) :
    openGuarded cfg d args ts (s.tw b t) = (openGuarded cfg d args ts s).tw b t := by
  unfold openGuarded
  simp only [St.tw_c_inTracingSection, h, Bool.not_true, Bool.and_false, Bool.false_eq_true, if_false,
    St.tw_setFlag, St.tw_c_packetIsOpen, St.setFlag_c_packetIsOpen, openWrite_tw]
  split <;> rfl

theorem openPacket_tw (args : Args) (s : St) (b : Bool) (t : List (Nat × Bool))
    (h : s.c.inTracingSection = true) :
    ∃ b', openPacket cfg d args (s.tw b t) = (openPacket cfg d args s).tw b' t := by
  unfold openPacket
  simp only [St.tw_halted]
  refine ite_tw (St.tw · · t) (fun _ => ⟨b, rfl⟩) fun _ => ?_
  obtain ⟨b1, e1⟩ := preambleTs_tw d d.feat.tsBegin s b t
  rw [e1]
  exact ⟨b1, openGuarded_tw cfg d args _ _ b1 t ((preambleTs_plumb d _ s).flag.trans h)⟩

theorem writeBack_tw (env : SerEnv) (name : String) (v : Int) (s : St) (b : Bool) (t : List (Nat × Bool)) :
    writeBack env d name v (s.tw b t) = (writeBack env d name v s).tw b t := by
  unfold writeBack
  simp only [St.tw_halted, St.tw_c_saved, St.tw_setAt, runSer_tw]
  split
  · rfl
  · split <;> rfl

theorem closeBacks_tw (ts : Nat) (s : St) (b : Bool) (t : List (Nat × Bool)) :
    closeBacks cfg d ts (s.tw b t) = (closeBacks cfg d ts s).tw b t := by
  unfold closeBacks
  simp only [serEnvOf_tw]
  generalize serEnvOf cfg d 0 ts s.c = env
  have e1 : (if d.feat.tsEnd.isSome = true then writeBack env d "timestamp_end" ts (s.tw b t) else s.tw b t) =
      (if d.feat.tsEnd.isSome = true then writeBack env d "timestamp_end" ts s else s).tw b t := by
    split
    · exact writeBack_tw _ _ _ _ _ _ _
    · rfl
  rw [e1]
  generalize (if d.feat.tsEnd.isSome = true then writeBack env d "timestamp_end" ts s else s) = s1
  simp only [St.tw_c_contentSize, writeBack_tw]
  generalize writeBack env d "content_size" s1.c.contentSize s1 = s2
  simp only [St.tw_c_eventsDiscarded]
  split <;> rfl

theorem closeFinish_tw (ts : Nat) (saved : Bool) (s : St) (b : Bool) (t : List (Nat × Bool)) :
    closeFinish d ts saved (s.tw b t) = (closeFinish d ts saved s).tw b t := by
  unfold closeFinish
  cases hh : s.halted
  · simp only [St.tw_halted, hh, Bool.false_eq_true, if_false]
    cases d.feat.tsEnd.isSome <;> cases d.feat.seqNum.isSome <;> rfl
  · simp only [St.tw_halted, hh, if_true]

theorem closeWrite_tw (ts : Nat) (saved : Bool) (s : St) (b : Bool) (t : List (Nat × Bool)) :
    closeWrite cfg d ts saved (s.tw b t) = (closeWrite cfg d ts saved s).tw b t := by
  unfold closeWrite
  simp only [St.tw_c_at_, St.tw_setContentSize, closeBacks_tw, closeFinish_tw]

theorem closeGuarded_tw (ts : Nat) (s : St) (b : Bool) (t : List (Nat × Bool))
    (h : s.c.inTracingSection = true) :
    closeGuarded cfg d ts (s.tw b t) = (closeGuarded cfg d ts s).tw b t := by
  unfold closeGuarded
  simp only [St.tw_c_inTracingSection, h, Bool.not_true, Bool.and_false, Bool.false_eq_true, if_false,
    St.tw_setFlag, St.tw_c_packetIsOpen, St.setFlag_c_packetIsOpen, closeWrite_tw]
  split <;> rfl

theorem closePacket_tw (s : St) (b : Bool) (t : List (Nat × Bool)) (h : s.c.inTracingSection = true) :
    ∃ b', closePacket cfg d (s.tw b t) = (closePacket cfg d s).tw b' t := by
  unfold closePacket
  simp only [St.tw_halted]
  refine ite_tw (St.tw · · t) (fun _ => ⟨b, rfl⟩) fun _ => ?_
  obtain ⟨b1, e1⟩ := preambleTs_tw d d.feat.tsEnd s b t
  rw [e1]
  exact ⟨b1, closeGuarded_tw cfg d _ _ b1 t ((preambleTs_plumb d _ s).flag.trans h)⟩

theorem cbOpen_tw (s : St) (b : Bool) (t : List (Nat × Bool)) (h : s.c.inTracingSection = true) :
    ∃ b', cbOpen cfg d (s.tw b t) = (cbOpen cfg d s).tw b' t := by
  unfold cbOpen
  simp only [St.tw_halted]
  refine ite_tw (St.tw · · t) (fun _ => ⟨b, rfl⟩) fun _ => ?_
  obtain ⟨b1, e1⟩ := cbEnter_tw .open_ s b t
  have hs := (cbEnter_plumb .open_ s).flag.trans h
  rw [e1]
  generalize cbEnter .open_ s = s1 at hs
  obtain ⟨b2, e2⟩ := openPacket_tw cfg d s1.openArgsNow s1.bumpOpen b1 t hs
  rw [St.tw_openArgsNow, St.tw_bumpOpen, e2]
  exact ⟨b2, rfl⟩

theorem setBuf_tw (bytes : Nat) (s : St) (b : Bool) (t : List (Nat × Bool)) :
    setBuf bytes (s.tw b t) = (setBuf bytes s).tw b t := by
  unfold setBuf
  cases hq : s.c.at_ == s.c.packetSize <;> simp only [St.tw_c_at_, St.tw_c_packetSize, hq] <;> rfl

theorem deliverAndSwap_tw (wasOpen : Bool) (n : Nat) (s : St) (b : Bool) (t : List (Nat × Bool)) :
    deliverAndSwap wasOpen n (s.tw b t) = (deliverAndSwap wasOpen n s).tw b t := by
  unfold deliverAndSwap
  cases hh : s.halted
  · simp only [St.tw_halted, hh, Bool.false_eq_true, if_false, St.tw_buf, St.tw_ev, St.tw_p_setBufs, St.ev_p]
    cases hl : List.lookup n s.p.setBufs
    · rfl
    · simp only [setBuf_tw]; rfl
  · simp only [St.tw_halted, hh, if_true]

theorem cbClose_tw (s : St) (b : Bool) (t : List (Nat × Bool)) (h : s.c.inTracingSection = true) :
    ∃ b', cbClose cfg d (s.tw b t) = (cbClose cfg d s).tw b' t := by
  unfold cbClose
  simp only [St.tw_halted]
  refine ite_tw (St.tw · · t) (fun _ => ⟨b, rfl⟩) fun _ => ?_
  obtain ⟨b1, e1⟩ := cbEnter_tw .close s b t
  have hs := (cbEnter_plumb .close s).flag.trans h
  rw [e1]
  generalize cbEnter .close s = s1 at hs
  obtain ⟨b2, e2⟩ := closePacket_tw cfg d s1.bumpClose b1 t hs
  rw [St.tw_bumpClose, e2, St.tw_c_packetIsOpen, St.tw_p_closeCount, deliverAndSwap_tw]
  exact ⟨b2, rfl⟩

theorem room_tw (s : St) (b : Bool) (t : List (Nat × Bool)) (x : Nat) : (s.tw b t).c.room x = s.c.room x := rfl

theorem withUseCur_tw (f : St → St)
    (hf : ∀ s b t, s.c.inTracingSection = true → ∃ b', f (s.tw b t) = (f s).tw b' t)
    (s : St) (b : Bool) (t : List (Nat × Bool)) (h : s.c.inTracingSection = true) :
    ∃ b', withUseCur f (s.tw b t) = (withUseCur f s).tw b' t := by
  unfold withUseCur
  obtain ⟨b1, e1⟩ := hf (s.setUseCur true) b t h
  exact ⟨b1, by rw [St.tw_setUseCur, e1, St.tw_setUseCur]⟩

theorem reopenAfterClose_tw (s : St) (b : Bool) (t : List (Nat × Bool)) (h : s.c.inTracingSection = true) :
    ∃ b', reopenAfterClose cfg d (s.tw b t) = twR (reopenAfterClose cfg d s) b' t := by
  unfold reopenAfterClose
  obtain ⟨b1, e1⟩ := cbFull_tw s b t
  have hs := (cbFull_plumb s).flag.trans h
  rw [e1]
  generalize cbFull s = r at hs
  refine ite_tw (twR · · t) (fun _ => ⟨b1, rfl⟩) fun _ => ?_
  obtain ⟨b2, e2⟩ := withUseCur_tw (cbOpen cfg d) (cbOpen_tw cfg d) r.2 b1 t hs
  exact ⟨b2, congrArg (Prod.mk true) e2⟩

theorem reserveTail_tw (erSize : Nat) (s : St) (b : Bool) (t : List (Nat × Bool)) (h : s.c.inTracingSection = true) :
    ∃ b', reserveTail cfg d erSize (s.tw b t) = twR (reserveTail cfg d erSize s) b' t := by
  unfold reserveTail
  simp only [St.tw_halted, room_tw, St.tw_c_at_]
  refine ite_tw (twR · · t) (fun _ => ⟨b, rfl⟩) fun _ => ite_tw (twR · · t) (fun _ => ?_) fun _ => ⟨b, rfl⟩
  obtain ⟨b1, e1⟩ := withUseCur_tw (cbClose cfg d) (cbClose_tw cfg d) s b t h
  rw [e1]
  exact reopenAfterClose_tw cfg d _ b1 t ((withUseCur_flag (callbacks_flag cfg d true s).2 s (.refl h)).flag (.inr rfl))

theorem reserve_tw (erSize emptySize : Nat) (s : St) (b : Bool) (t : List (Nat × Bool))
    (h : s.c.inTracingSection = true) :
    ∃ b', reserve cfg d erSize emptySize (s.tw b t) = twR (reserve cfg d erSize emptySize s) b' t := by
  unfold reserve
  have hfull : (s.tw b t).c.isFull = s.c.isFull := rfl
  simp only [room_tw, St.tw_c_offContent, hfull]
  refine ite_tw (twR · · t) (fun _ => ⟨b, rfl⟩) fun _ =>
    ite_tw (twR · · t) (fun _ => ?_) fun _ => reserveTail_tw cfg d erSize s b t h
  obtain ⟨b1, e1⟩ := cbFull_tw s b t
  have hs := (cbFull_plumb s).flag.trans h
  rw [e1]
  generalize cbFull s = r at hs
  refine ite_tw (twR · · t) (fun _ => ⟨b1, rfl⟩) fun _ => ?_
  obtain ⟨b2, e2⟩ := withUseCur_tw (cbOpen cfg d) (cbOpen_tw cfg d) r.2 b1 t hs
  rw [twR_snd, e2]
  exact reserveTail_tw cfg d erSize _ b2 t ((withUseCur_flag (callbacks_flag cfg d true r.2).1 r.2 (.refl hs)).flag (.inr rfl))

theorem commit_tw (s : St) (b : Bool) (t : List (Nat × Bool)) (h : s.c.inTracingSection = true) :
    ∃ b', commit cfg d (s.tw b t) = (commit cfg d s).tw b' t := by
  unfold commit
  have hfull : (s.tw b t).c.isFull = s.c.isFull := rfl
  simp only [St.tw_halted, hfull]
  exact ite_tw (St.tw · · t) (fun _ => ⟨b, rfl⟩) fun _ =>
    ite_tw (St.tw · · t) (fun _ => cbClose_tw cfg d s b t h) fun _ => ⟨b, rfl⟩

theorem traceStore_tw (e : ERT) (args : Args) (s : St) (b : Bool) (t : List (Nat × Bool)) :
    traceStore cfg d e args (s.tw b t) = (traceStore cfg d e args s).tw b t := by
  unfold traceStore
  simp only [serEnvOf_tw, St.tw_c_curLastEventTs, St.tw_c_at_, runSer_tw, St.tw_halted]
  generalize runSer _ s = s1
  split
  · rfl
  · split <;> rfl

theorem traceWrite_tw (e : ERT) (args : Args) (s : St) (b : Bool) (t : List (Nat × Bool))
    (h : s.c.inTracingSection = true) :
    ∃ b', traceWrite cfg d e args (s.tw b t) = (traceWrite cfg d e args s).tw b' t := by
  rw [traceWrite_eq, traceWrite_eq, traceStore_tw]
  obtain ⟨b1, e1⟩ := commit_tw cfg d _ b t ((traceStore_flag cfg d e args s).trans h)
  simp only [St.tw_halted, e1]
  exact ite_tw (St.tw · · t) (fun _ => ⟨b, rfl⟩) fun _ => ite_tw (St.tw · · t) (fun _ => ⟨b1, rfl⟩) fun _ => ⟨b1, rfl⟩

theorem traceAfterReserve_tw (e : ERT) (args : Args) (erAt erSize : Nat) (r : Bool × St) (b : Bool)
    (t : List (Nat × Bool)) (h : r.2.c.inTracingSection = true) :
    ∃ b', traceAfterReserve cfg d e args erAt erSize (twR r b t) =
      (traceAfterReserve cfg d e args erAt erSize r).tw b' t := by
  unfold traceAfterReserve
  have hsz : sizeAfterReserve d e args erAt erSize (r.2.tw b t) = sizeAfterReserve d e args erAt erSize r.2 := rfl
  simp only [twR_fst, twR_snd, St.tw_halted, hsz, room_tw, St.tw_c_at_]
  exact ite_tw (St.tw · · t) (fun _ => ⟨b, rfl⟩) fun _ => ite_tw (St.tw · · t) (fun _ => ⟨b, rfl⟩) fun _ =>
    ite_tw (St.tw · · t) (fun _ => ⟨b, rfl⟩) fun _ => traceWrite_tw cfg d e args r.2 b t h

/-- C07 atomicity: once a tracing call has passed its enable test, neither the value of the enable flag
    nor the toggle script influences what the call does. -/
theorem traceEnabled_tw (e : ERT) (args : Args) (s : St) (b : Bool) (t : List (Nat × Bool))
    (h : s.c.inTracingSection = true) :
    ∃ b', traceEnabled cfg d e args (s.tw b t) = (traceEnabled cfg d e args s).tw b' t := by
  unfold traceEnabled
  obtain ⟨b1, e1⟩ := reserve_tw cfg d (erSizeAt d e args s.c.at_) (erSizeAt d e args s.c.offContent) s b t h
  simp only [St.tw_c_at_, St.tw_c_offContent, e1]
  exact traceAfterReserve_tw cfg d e args _ _ _ b1 t ((reserve_flag cfg d _ _ s s (.refl h)).flag (.inr rfl))

end BVM
