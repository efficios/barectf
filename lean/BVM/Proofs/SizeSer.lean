/-
  Proofs/SizeSer.lean — the size pass and the serialise pass of an operation tree (C02), for every root structure,
  those written through the specialised templates included (packet header: magic, UUID, stream id; packet context:
  sizes, timestamps, counters, with the fields written back at closing time skipped and their offsets saved; event
  record header: id, timestamp):
  (1) they advance `at` identically (both in `uint32_t` arithmetic);
  (2) if the size of a root structure computed without any wrap-around ends inside the buffer, serialising it
      performs no store outside the buffer, and ends exactly there;
  (3) while that end does not wrap, the `uint32_t` size pass computes it (`size_exact`).
  The user roots (no template: `specNone`) are the special case.
-/
import BVM.Proofs.Plain
namespace BVM

/-! ### (1) same advance -/

/-- the two passes are in step: same position, same remaining leaves -/
def InStep (z : SizeSt) (s : SerSt) : Prop := z.at_ = s.at_ ∧ z.leaves = s.leaves

theorem sizePop_eq (z : SizeSt) : z.pop = (z.leaves.headD (.num 0), { z with leaves := z.leaves.tail }) := by
  obtain ⟨_, l⟩ := z; cases l <;> rfl

theorem sizeAlign_inStep (al : Option Nat) {z : SizeSt} {s : SerSt} (h : InStep z s) :
    InStep (sizeAlign al z) (serAlign al s) := by
  cases al with
  | none => exact h
  | some a => exact ⟨congrArg (alignUp · a) h.1, h.2⟩

theorem sizeElem_inStep (env : SerEnv) : ∀ (op : EOp), op.All (·.src = .arg) → ∀ (z : SizeSt) (s : SerSt), InStep z s →
    InStep (sizeElem op z) (serElem env op s)
  | .leaf al ⟨_, sc, o⟩, rfl, z, s, h => by
    obtain ⟨ha, hl⟩ := sizeAlign_inStep al h
    cases sc <;>
      simp only [InStep, sizeElem, serElem, serWrite, sizePop_eq, pop_eq, writeBits_at, writeBits_leaves, writeStr,
        store_leaves, ha, hl, and_self]
  | .loop al n body, hq, z, s, h => iterN_rel (sizeElem_inStep env body hq) n _ _ (sizeAlign_inStep al h)

theorem sizeLeaf_at (al : Option Nat) (w : Write) (z : SizeSt) (h : w.sc ≠ .str) :
    (sizeElem (.leaf al w) z).at_ = u32 ((sizeAlign al z).at_ + w.sc.size) := by
  obtain ⟨_, sc, _⟩ := w
  cases sc <;> first | rfl | exact absurd rfl h

/-- what the size pass asks of a member: a first-level scalar that is not a string advances both passes by its size,
    whatever its template (but the UUID's); everything else must be argument writes -/
def MOp.SizeOK : MOp → Prop
  | .el _ (.leaf _ w) => w.src = .arg ∨ (w.sc ≠ .str ∧ w.src ≠ .uuid)
  | m => m.All (·.src = .arg)

theorem sizeMember_eq (env : SerEnv) (pfx : String) (args : Args) (m : MOp) (h : m.SizeOK) (s : SerSt) :
    sizeMember pfx args m s.at_ = (serMember env pfx args m s).at_ := by
  have arg : ∀ e : EOp, e.All (·.src = .arg) → ∀ (z : SizeSt) (t : SerSt), InStep z t →
      (sizeElem e z).at_ = (serElem env e t).at_ := fun e he z t hi => (sizeElem_inStep env e he z t hi).1
  match m, h with
  | .dloop name al ln body, h => exact arg (.loop al _ body) h _ _ ⟨rfl, rfl⟩
  | .el name (.loop al n body), h => exact arg _ h _ _ ⟨rfl, rfl⟩
  | .el name (.leaf al ⟨src, sc, o⟩), h =>
    by_cases ha : src = .arg
    · exact arg (.leaf al ⟨src, sc, o⟩) ha _ _ ⟨rfl, rfl⟩
    · obtain ⟨hstr, hu⟩ := h.resolve_left ha
      have h1 := sizeAlign_inStep al (z := ⟨s.at_, args.get (pfx ++ "_" ++ name)⟩)
        (s := { s with leaves := args.get (pfx ++ "_" ++ name) }) ⟨rfl, rfl⟩
      rw [sizeMember, serMember, sizeLeaf_at al _ _ hstr, serElem, serWrite_at_of_ne env sc o _ ha hu, h1.1]

/-- the size pass of a root ends where its serialisation ends (both in `uint32_t` arithmetic) -/
theorem sizeRoot_eq (env : SerEnv) (pfx : String) (args : Args) (r : RootOp) (h : ∀ m ∈ r.members, m.SizeOK) (s : SerSt) :
    sizeRoot pfx r args s.at_ = (serRoot env pfx r args s).at_ := by
  unfold sizeRoot serRoot
  exact List.foldl_rel (r := fun a (t : SerSt) => a = t.at_) (by cases r.al <;> rfl)
    fun m hm a t e => e ▸ sizeMember_eq env pfx args m (h m hm) t

theorem buildElem_all {Q : Write → Prop} (harg : ∀ sc o, Q ⟨.arg, sc, o⟩) : ∀ (e : Elem) (src : WSrc) (level : Nat)
    (oib : Option Nat), (∀ sc o, Q ⟨src, sc, o⟩) → (buildElem src e level oib).1.All Q
  | .sc _, _, _, _, h => h _ _
  | .sarr _ e, _, level, _, _ => buildElem_all harg e .arg (level + 1) _ harg

theorem buildMembers_mem (spec : String → Option WSrc) : ∀ (ms : List Member) (oib : Option Nat),
    ∀ x ∈ (buildMembers spec ms oib).1, ∃ m ∈ ms, ∃ o, x = (buildMember spec m o).1
  | [], _, x, hx => by simp [buildMembers] at hx
  | m :: ms, oib, x, hx => by
    rcases List.mem_cons.mp hx with rfl | hx
    · exact ⟨m, by simp, oib, rfl⟩
    · obtain ⟨m', hm', o, e⟩ := buildMembers_mem spec ms _ x hx
      exact ⟨m', by simp [hm'], o, e⟩

theorem buildMember_sizeOK (spec : String → Option WSrc) (m : Member) (oib : Option Nat) (hwf : SpecWF spec m)
    (hnu : m.ft ≠ .uuid) : (buildMember spec m oib).1.SizeOK := by
  have arg : ∀ e level o, (buildElem .arg e level o).1.All (·.src = .arg) := fun e level o =>
    buildElem_all (fun _ _ => rfl) e .arg level o (fun _ _ => rfl)
  obtain ⟨name, ft⟩ := m
  match ft, hwf, hnu with
  | .darr ln e, _, _ => exact arg e 1 _
  | .el (.sarr n e), _, _ => exact arg (.sarr n e) 0 oib
  | .el (.sc sc), hwf, _ =>
    show _ ∨ _
    cases hs : spec name with
    | none => exact Or.inl rfl
    | some src => exact (hwf src hs).imp id fun h => ⟨h.2, h.1⟩

/-- **`_er_size_*` ends where `_serialize_er_*` ends**, for every root without a UUID member whose templates apply to
    integers only: in `uint32_t` arithmetic, whatever the values, the alignments and the starting state -/
theorem size_eq_ser_build (env : SerEnv) (spec : String → Option WSrc) (pfx : String) (args : Args) (S : Struct)
    (hS : ∀ m ∈ S.members, SpecWF spec m ∧ m.ft ≠ .uuid) (s : SerSt) :
    sizeRoot pfx (buildRoot spec S) args s.at_ = (serRoot env pfx (buildRoot spec S) args s).at_ :=
  sizeRoot_eq env pfx args _ (fun x hx => by
    obtain ⟨m, hm, o, rfl⟩ := buildMembers_mem spec S.members _ x hx
    exact buildMember_sizeOK spec m o (hS m hm).1 (hS m hm).2) s

theorem size_eq_ser_S (env : SerEnv) (spec : String → Option WSrc) (pfx : String) (args : Args) (S : Struct)
    (hS : RootOKS spec S) (hnu : ∀ m ∈ S.members, m.ft ≠ .uuid) (s : SerSt) :
    sizeRoot pfx (buildRoot spec S) args s.at_ = (serRoot env pfx (buildRoot spec S) args s).at_ :=
  size_eq_ser_build env spec pfx args S (fun m hm => ⟨(hS.members m hm).2.1, hnu m hm⟩) s

theorem size_eq_ser (env : SerEnv) (pfx : String) (args : Args) (S : Struct) (hS : RootOK S) (s : SerSt) :
    sizeRoot pfx (buildRoot specNone S) args s.at_ = (serRoot env pfx (buildRoot specNone S) args s).at_ :=
  size_eq_ser_S env specNone pfx args S hS.toS (fun m hm => (hS.members m hm).1) s

/-! ### (2) a root whose true size ends inside the buffer is written inside the buffer -/

/-- bits the argument `l` takes as a value of scalar type `sc` -/
def Scalar.bits : Scalar → Leaf → Nat
  | .str, l => 8 * (l.bytes.length + 1)
  | sc, _ => sc.size

theorem Scalar.bits_of_ne {sc : Scalar} (h : sc ≠ .str) (l : Leaf) : sc.bits l = sc.size := by
  cases sc <;> first | rfl | exact absurd rfl h

/-- position and remaining leaves after one value of element type `e`, computed in unbounded arithmetic -/
def elemEndN : Elem → Nat × List Leaf → Nat × List Leaf
  | .sc sc, (a, ls) =>
    let a1 := alignNat a sc.align
    match sc with
    | .str => (a1 + 8 * ((ls.headD (.num 0)).bytes.length + 1), ls.tail)
    | sc => (a1 + sc.size, ls.tail)
  | .sarr n e, (a, ls) => iterN (elemEndN e) n (alignNat a e.align, ls)

theorem elemEndN_sc (sc : Scalar) (a : Nat) (ls : List Leaf) :
    elemEndN (.sc sc) (a, ls) = (alignNat a sc.align + sc.bits (ls.headD (.num 0)), ls.tail) := by cases sc <;> rfl

theorem iterN_le {α : Type} {g : Nat × α → Nat × α} (hg : ∀ p, p.1 ≤ (g p).1) (n : Nat) (p : Nat × α) :
    p.1 ≤ (iterN g n p).1 :=
  iterN_keeps (P := fun q => p.1 ≤ q.1) (fun q h => Nat.le_trans h (hg q)) n p (Nat.le_refl _)

theorem elemEndN_mono : ∀ (e : Elem), 0 < e.align → ∀ (p : Nat × List Leaf), p.1 ≤ (elemEndN e p).1
  | .sc sc, hal, (a, ls) => by
    rw [elemEndN_sc]; exact Nat.le_trans (alignNat_ge a sc.align hal) (Nat.le_add_right _ _)
  | .sarr n e, hal, (a, ls) =>
    Nat.le_trans (alignNat_ge a e.align hal) (iterN_le (elemEndN_mono e hal) n (alignNat a e.align, ls))

/-- what serialising from `s` to `s'` does when it stays inside the buffer -/
structure InBounds (L : Nat) (s s' : SerSt) (endN : Nat × List Leaf) : Prop where
  oob : s'.oob = false
  at_ : s'.at_ = endN.1
  leaves : s'.leaves = endN.2
  len : s'.buf.length = L

theorem writeBits_in (env : SerEnv) (sc : Scalar) (v : Int) (s : SerSt) (h0 : s.oob = false)
    (hfit : s.at_ + sc.size ≤ 8 * s.buf.length) (h32 : 8 * s.buf.length < 2 ^ 32) :
    (writeBits env sc none v s).oob = false ∧ (writeBits env sc none v s).at_ = s.at_ + sc.size ∧
    (writeBits env sc none v s).leaves = s.leaves ∧ (writeBits env sc none v s).buf.length = s.buf.length := by
  obtain ⟨b, n, nb, hl, _, hr, e⟩ := writeBits_store env sc none v s
  have hin : b + n ≤ s.buf.length := by have := hr rfl; omega
  rw [e]
  exact ⟨(store_oob_false s b n nb).mpr ⟨h0, hin⟩, Nat.mod_eq_of_lt (by omega), store_leaves s b n nb,
    (congrArg List.length (store_buf_of_le s b n nb hin)).trans hl⟩

theorem writeStr_in (bytes : List Nat) (s : SerSt) (h0 : s.oob = false) (h8 : s.at_ % 8 = 0)
    (hfit : s.at_ + 8 * (bytes.length + 1) ≤ 8 * s.buf.length) (h32 : 8 * s.buf.length < 2 ^ 32) :
    (writeStr bytes s).oob = false ∧ (writeStr bytes s).at_ = s.at_ + 8 * (bytes.length + 1) ∧
    (writeStr bytes s).leaves = s.leaves ∧ (writeStr bytes s).buf.length = s.buf.length := by
  have hin : s.at_ / 8 + (bytes.length + 1) ≤ s.buf.length := by omega
  exact ⟨(store_oob_false s _ _ _).mpr ⟨h0, hin⟩, writeStr_at bytes s (by omega), store_leaves s _ _ _,
    (congrArg List.length (store_buf_of_le s _ _ _ hin)).trans (memcpyBytes_length _ _ _)⟩

/-- bits a first-level write advances by: an argument's own size, a template's scalar -/
def wBits (src : WSrc) (sc : Scalar) (l : Leaf) : Nat := if src = .arg then sc.bits l else sc.size

/-- **one aligned write of any source but the UUID's**: if its true end is inside the buffer, it stores inside the
    buffer and ends there -/
theorem write_in_bounds (env : SerEnv) (L : Nat) (src : WSrc) (sc : Scalar) (s : SerSt) (hnu : src ≠ .uuid)
    (hal : 0 < sc.align) (hsmall : 8 * L + sc.align ≤ 2 ^ 32) (hlen : s.buf.length = L) (h0 : s.oob = false)
    (hfit : alignNat s.at_ sc.align + wBits src sc (s.leaves.headD (.num 0)) ≤ 8 * L) :
    (serElem env (.leaf (alOp sc.align) ⟨src, sc, none⟩) s).oob = false ∧
    (serElem env (.leaf (alOp sc.align) ⟨src, sc, none⟩) s).at_ =
      alignNat s.at_ sc.align + wBits src sc (s.leaves.headD (.num 0)) ∧
    (serElem env (.leaf (alOp sc.align) ⟨src, sc, none⟩) s).buf.length = L ∧
    (src = .arg → (serElem env (.leaf (alOp sc.align) ⟨src, sc, none⟩) s).leaves = s.leaves.tail) := by
  have hge := alignNat_ge s.at_ sc.align hal
  have hat := serAlign_alOp sc.align s hal (by omega)
  rw [serElem]
  generalize hs1 : serAlign (alOp sc.align) s = t at hat
  have hb : t.buf.length = L := by rw [← hs1, serAlign_buf]; exact hlen
  have ho : t.oob = false := by rw [← hs1, serAlign_oob]; exact h0
  have hl : t.leaves = s.leaves := by rw [← hs1, serAlign_leaves]
  unfold wBits at hfit ⊢
  by_cases ha : src = .arg
  · subst ha
    rw [if_pos rfl] at hfit ⊢
    by_cases hstr : sc = .str
    · subst hstr
      obtain ⟨w1, w2, w3, w4⟩ := writeStr_in t.pop.1.bytes t.pop.2 (by rw [pop_oob]; exact ho)
        (by rw [pop_at, hat]; exact alignNat_mod8 _ _ rfl)
        (by rw [pop_at, pop_buf, pop_fst, hat, hb, hl]; exact hfit) (by rw [pop_buf, hb]; omega)
      exact ⟨w1, by rw [serWrite_arg_str, w2, pop_at, pop_fst, hat, hl]; rfl, by rw [serWrite_arg_str, w4, pop_buf, hb],
        fun _ => by rw [serWrite_arg_str, w3, pop_leaves, hl]⟩
    · rw [Scalar.bits_of_ne hstr] at hfit ⊢
      rw [serWrite_arg_bits env none t hstr]
      obtain ⟨w1, w2, w3, w4⟩ := writeBits_in env sc t.pop.1.toInt t.pop.2 (by rw [pop_oob]; exact ho)
        (by rw [pop_at, pop_buf, hat, hb]; exact hfit) (by rw [pop_buf, hb]; omega)
      rw [pop_at, hat] at w2
      exact ⟨w1, w2, by rw [w4, pop_buf, hb], fun _ => by rw [w3, pop_leaves, hl]⟩
  · rw [if_neg ha] at hfit ⊢
    refine (?_ : _ ∧ _ ∧ _).imp_right (And.imp_right fun h => ⟨h, fun e => absurd e ha⟩)
    by_cases hs : ∃ n, src = .skipSave n
    · obtain ⟨n, rfl⟩ := hs
      exact ⟨ho, by show u32 (t.at_ + sc.size) = _; rw [hat]; exact Nat.mod_eq_of_lt (by omega), hb⟩
    · rw [serWrite_env env sc none t ha hnu (fun n e => hs ⟨n, e⟩)]
      obtain ⟨w1, w2, _, w4⟩ := writeBits_in env sc (envVal env src) t ho (by rw [hat, hb]; exact hfit) (by rw [hb]; omega)
      exact ⟨w1, by rw [w2, hat], by rw [w4, hb]⟩

/-- the UUID member: 16 bytes at the next byte boundary -/
theorem uuid_in_bounds (env : SerEnv) (L : Nat) (s : SerSt) (hsmall : 8 * L + 8 ≤ 2 ^ 32)
    (hlen : s.buf.length = L) (h0 : s.oob = false) (hfit : alignNat s.at_ 8 + 128 ≤ 8 * L) :
    (serElem env (.leaf (alOp 8) ⟨.uuid, .str, none⟩) s).oob = false ∧
    (serElem env (.leaf (alOp 8) ⟨.uuid, .str, none⟩) s).at_ = alignNat s.at_ 8 + 128 ∧
    (serElem env (.leaf (alOp 8) ⟨.uuid, .str, none⟩) s).buf.length = L := by
  have hge := alignNat_ge s.at_ 8 (by decide)
  have hat := serAlign_alOp 8 s (by decide) (by omega)
  rw [serElem]
  generalize hs1 : serAlign (alOp 8) s = t at hat
  have hb : t.buf.length = L := by rw [← hs1, serAlign_buf]; exact hlen
  have ho : t.oob = false := by rw [← hs1, serAlign_oob]; exact h0
  have hm8 : alignNat s.at_ 8 % 8 = 0 := alignNat_mod8 _ _ rfl
  -- the template's own `_ALIGN(ctx->at, 8)` finds `at` aligned
  have ha : alignUp t.at_ 8 = alignNat s.at_ 8 := by
    rw [alignUp_eq _ _ (by rw [hat]; omega), hat, alignNat_idem _ _ (by decide)]
  simp only [serWrite, ha]
  have hin : alignNat s.at_ 8 / 8 + 16 ≤ ({ t with at_ := alignNat s.at_ 8 } : SerSt).buf.length := by
    show _ ≤ t.buf.length; omega
  exact ⟨(store_oob_false _ _ _ _).mpr ⟨ho, hin⟩, Nat.mod_eq_of_lt (by omega),
    (congrArg List.length (store_buf_of_le _ _ _ _ hin)).trans ((memcpyBytes_length _ _ _).trans hb)⟩

/-- `n` iterations of a step that stays inside the buffer as long as its true end does -/
theorem loop_in_bounds (L : Nat) (f : SerSt → SerSt) (g : Nat × List Leaf → Nat × List Leaf)
    (hmono : ∀ p, p.1 ≤ (g p).1)
    (hstep : ∀ s, s.buf.length = L → s.oob = false → (g (s.at_, s.leaves)).1 ≤ 8 * L →
      InBounds L s (f s) (g (s.at_, s.leaves))) :
    ∀ (n : Nat) (s : SerSt), s.buf.length = L → s.oob = false → (iterN g n (s.at_, s.leaves)).1 ≤ 8 * L →
      InBounds L s (iterN f n s) (iterN g n (s.at_, s.leaves))
  | 0, s, hlen, h0, _ => ⟨h0, rfl, rfl, hlen⟩
  | n + 1, s, hlen, h0, hfit => by
    have h1 := hstep s hlen h0 (Nat.le_trans (iterN_le hmono n _) hfit)
    have e : ((f s).at_, (f s).leaves) = g (s.at_, s.leaves) := by rw [h1.at_, h1.leaves]
    have ih := loop_in_bounds L f g hmono hstep n (f s) h1.len h1.oob (e ▸ hfit)
    rw [e] at ih
    exact ⟨ih.oob, ih.at_, ih.leaves, ih.len⟩

theorem elem_in_bounds (env : SerEnv) (L A : Nat) (hsmall : 8 * L + A ≤ 2 ^ 32) :
    ∀ (e : Elem), e.align ≤ A → 0 < e.align → ∀ (s : SerSt), s.buf.length = L → s.oob = false →
      (elemEndN e (s.at_, s.leaves)).1 ≤ 8 * L →
      InBounds L s (serElem env (plainElem e) s) (elemEndN e (s.at_, s.leaves))
  | .sc sc, hA, hal, s, hlen, h0, hfit => by
    rw [elemEndN_sc] at hfit ⊢
    obtain ⟨w1, w2, w3, w4⟩ := write_in_bounds env L .arg sc s (by simp) hal (by have : sc.align ≤ A := hA; omega) hlen h0 hfit
    exact ⟨w1, w2, w4 rfl, w3⟩
  | .sarr n e, hA, hal, s, hlen, h0, hfit => by
    have hA : e.align ≤ A := hA
    have hge := alignNat_ge s.at_ e.align hal
    have hm := iterN_le (elemEndN_mono e hal) n (alignNat s.at_ e.align, s.leaves)
    have hat := serAlign_alOp e.align s hal (by simp only [elemEndN] at hm hfit; omega)
    have := loop_in_bounds L _ _ (elemEndN_mono e hal) (elem_in_bounds env L A hsmall e hA hal) n (serAlign (alOp e.align) s)
      (by rw [serAlign_buf]; exact hlen) (by rw [serAlign_oob]; exact h0) (by rw [hat, serAlign_leaves]; exact hfit)
    rw [hat, serAlign_leaves] at this
    exact ⟨this.oob, this.at_, this.leaves, this.len⟩

/-- the end of the user member `m` written from `a`, in unbounded arithmetic.  User structures have no UUID member: its
    case gives it no extent and means nothing (`memberEndS` has its 128 bits). -/
def memberEndN (pfx : String) (args : Args) (m : Member) (a : Nat) : Nat :=
  match m.ft with
  | .el e => (elemEndN e (a, args.get (pfx ++ "_" ++ m.name))).1
  | .darr ln e => (iterN (elemEndN e) (cntOf pfx args ln) (alignNat a e.align, args.get (pfx ++ "_" ++ m.name))).1
  | .uuid => a

/-- the end position of the root structure `S` serialised from `a`, in unbounded arithmetic: what a CTF reader
    computes from the metadata and the values -/
def structEndN (pfx : String) (args : Args) (S : Struct) (a : Nat) : Nat :=
  S.members.foldl (fun a m => memberEndN pfx args m a) (alignNat a S.align)

def memberEndS (spec : String → Option WSrc) (pfx : String) (args : Args) (m : Member) (a : Nat) : Nat :=
  match m.ft with
  | .el (.sc sc) =>
    match spec m.name with
    | none => memberEndN pfx args m a
    | some .arg => memberEndN pfx args m a
    | some _ => alignNat a sc.align + sc.size
  | .uuid => alignNat a 8 + 128
  | _ => memberEndN pfx args m a

def structEndS (spec : String → Option WSrc) (pfx : String) (args : Args) (S : Struct) (a : Nat) : Nat :=
  S.members.foldl (fun a m => memberEndS spec pfx args m a) (alignNat a S.align)

theorem memberEndS_sc (spec : String → Option WSrc) (pfx : String) (args : Args) (name : String) (sc : Scalar) (a : Nat) :
    memberEndS spec pfx args ⟨name, .el (.sc sc)⟩ a =
      alignNat a sc.align + wBits ((spec name).getD .arg) sc ((args.get (pfx ++ "_" ++ name)).headD (.num 0)) := by
  have arg : memberEndN pfx args ⟨name, .el (.sc sc)⟩ a =
      alignNat a sc.align + wBits .arg sc ((args.get (pfx ++ "_" ++ name)).headD (.num 0)) := by
    show (elemEndN (.sc sc) (a, _)).1 = _
    rw [elemEndN_sc]; rfl
  unfold memberEndS
  cases spec name with
  | none => exact arg
  | some src => cases src <;> first | exact arg | rfl

theorem memberEndS_none (pfx : String) (args : Args) (m : Member) (hnu : m.ft ≠ .uuid) (a : Nat) :
    memberEndS specNone pfx args m a = memberEndN pfx args m a := by
  obtain ⟨name, ft⟩ := m
  match ft, hnu with
  | .el (.sc sc), _ => rfl
  | .el (.sarr n e), _ => rfl
  | .darr ln e, _ => rfl

theorem structEndS_none (pfx : String) (args : Args) (S : Struct) (hnu : ∀ m ∈ S.members, m.ft ≠ .uuid) (a : Nat) :
    structEndS specNone pfx args S a = structEndN pfx args S a :=
  List.foldl_rel (r := Eq) rfl fun m hm _ _ e => e ▸ memberEndS_none pfx args m (hnu m hm) _

theorem memberEndS_mono (spec : String → Option WSrc) (pfx : String) (args : Args) (m : Member) (hal : 0 < m.ft.align)
    (a : Nat) : a ≤ memberEndS spec pfx args m a := by
  obtain ⟨n, ft⟩ := m
  match ft with
  | .el (.sc sc) => rw [memberEndS_sc]; exact Nat.le_trans (alignNat_ge a sc.align hal) (Nat.le_add_right _ _)
  | .el (.sarr k e) => exact elemEndN_mono (.sarr k e) hal (a, _)
  | .darr ln e => exact elemEndN_mono (.sarr (cntOf pfx args ln) e) hal (a, _)
  | .uuid => exact Nat.le_trans (alignNat_ge a 8 (by decide)) (Nat.le_add_right _ _)

theorem memberEndS_fold_mono (spec : String → Option WSrc) (pfx : String) (args : Args) (ms : List Member)
    (h : ∀ m ∈ ms, 0 < m.ft.align) (a : Nat) : a ≤ ms.foldl (fun a m => memberEndS spec pfx args m a) a :=
  List.foldlRecOn ms _ (Nat.le_refl a) fun b hb m hm => Nat.le_trans hb (memberEndS_mono spec pfx args m (h m hm) b)

theorem member_in_bounds_S (env : SerEnv) (L A : Nat) (hsmall : 8 * L + A ≤ 2 ^ 32)
    (spec : String → Option WSrc) (pfx : String) (args : Args) (m : Member) (hwf : SpecWF spec m)
    (hA : m.ft.align ≤ A) (hal : 0 < m.ft.align) (s : SerSt)
    (hlen : s.buf.length = L) (h0 : s.oob = false) (hfit : memberEndS spec pfx args m s.at_ ≤ 8 * L) :
    (serMember env pfx args (plainMemberS spec m) s).oob = false ∧
    (serMember env pfx args (plainMemberS spec m) s).at_ = memberEndS spec pfx args m s.at_ ∧
    (serMember env pfx args (plainMemberS spec m) s).buf.length = L := by
  obtain ⟨name, ft⟩ := m
  match ft, hwf with
  | .uuid, _ => exact uuid_in_bounds env L _ (by have : 8 ≤ A := hA; omega) hlen h0 hfit
  | .darr ln e, _ =>
    -- a dynamic array is the static array of its run-time length
    have := elem_in_bounds env L A hsmall (.sarr (cntOf pfx args ln) e) hA hal
      { s with leaves := args.get (pfx ++ "_" ++ name) } hlen h0 hfit
    exact ⟨this.oob, this.at_, this.len⟩
  | .el (.sarr n e), _ =>
    have := elem_in_bounds env L A hsmall (.sarr n e) hA hal { s with leaves := args.get (pfx ++ "_" ++ name) } hlen h0 hfit
    exact ⟨this.oob, this.at_, this.len⟩
  | .el (.sc sc), hwf =>
    rw [memberEndS_sc] at hfit ⊢
    have hnu : (spec name).getD .arg ≠ .uuid := by
      cases hs : spec name with
      | none => simp
      | some src => rcases hwf src hs with h | h <;> simp [h]
    obtain ⟨w1, w2, w3, _⟩ := write_in_bounds env L _ sc { s with leaves := args.get (pfx ++ "_" ++ name) } hnu hal
      (by have : sc.align ≤ A := hA; omega) hlen h0 hfit
    exact ⟨w1, w2, w3⟩

theorem members_in_bounds_S (env : SerEnv) (L A : Nat) (hsmall : 8 * L + A ≤ 2 ^ 32)
    (spec : String → Option WSrc) (pfx : String) (args : Args) :
    ∀ (ms : List Member), (∀ m ∈ ms, SpecWF spec m ∧ m.ft.align ≤ A ∧ 0 < m.ft.align) → ∀ (s : SerSt),
      s.buf.length = L → s.oob = false → ms.foldl (fun a m => memberEndS spec pfx args m a) s.at_ ≤ 8 * L →
      ((ms.map (plainMemberS spec)).foldl (fun a m => serMember env pfx args m a) s).oob = false ∧
      ((ms.map (plainMemberS spec)).foldl (fun a m => serMember env pfx args m a) s).at_ =
        ms.foldl (fun a m => memberEndS spec pfx args m a) s.at_ ∧
      ((ms.map (plainMemberS spec)).foldl (fun a m => serMember env pfx args m a) s).buf.length = L
  | [], _, s, hlen, h0, _ => ⟨h0, rfl, hlen⟩
  | m :: ms, hms, s, hlen, h0, hfit => by
    simp only [List.map_cons, List.foldl_cons] at hfit ⊢
    obtain ⟨hwf, hA, hal⟩ := hms m (by simp)
    have h1 := member_in_bounds_S env L A hsmall spec pfx args m hwf hA hal s hlen h0
      (Nat.le_trans (memberEndS_fold_mono spec pfx args ms (fun x hx => (hms x (by simp [hx])).2.2) _) hfit)
    have ih := members_in_bounds_S env L A hsmall spec pfx args ms (fun x hx => hms x (by simp [hx])) _ h1.2.2 h1.1
      (by rw [h1.2.1]; exact hfit)
    rw [h1.2.1] at ih
    exact ih

/-- **any root structure that fits is written inside the buffer** — packet header, packet context (the fields written
    back at closing are skipped, their offsets saved), event record header, contexts, payload -/
theorem root_in_bounds (env : SerEnv) (spec : String → Option WSrc) (pfx : String) (args : Args) (S : Struct)
    (hS : RootOKS spec S) (s : SerSt) (L : Nat) (hsmall : 8 * L + S.align ≤ 2 ^ 32) (hlen : s.buf.length = L)
    (h0 : s.oob = false) (hfit : structEndS spec pfx args S s.at_ ≤ 8 * L) :
    (serRoot env pfx (buildRoot spec S) args s).oob = false ∧
    (serRoot env pfx (buildRoot spec S) args s).at_ = structEndS spec pfx args S s.at_ ∧
    (serRoot env pfx (buildRoot spec S) args s).buf.length = L := by
  rw [serRoot_build env spec pfx args S hS]
  have hpos : ∀ m ∈ S.members, 0 < m.ft.align := fun m hm => (hS.members m hm).1.pos
  have hge := alignNat_ge s.at_ S.align hS.align_pos
  have hm := memberEndS_fold_mono spec pfx args S.members hpos (alignNat s.at_ S.align)
  have hat := serAlign_alOp S.align s hS.align_pos (by unfold structEndS at hfit; omega)
  have := members_in_bounds_S env L S.align hsmall spec pfx args S.members
    (fun m hm => ⟨(hS.members m hm).2.1, member_align_le S m hm, hpos m hm⟩) (serAlign (alOp S.align) s)
    (by rw [serAlign_buf]; exact hlen) (by rw [serAlign_oob]; exact h0) (by rw [hat]; exact hfit)
  rw [hat] at this
  exact this

/-- (2) if the true end of the structure is inside the buffer, serialising it stores nothing outside the buffer and
    ends exactly there -/
theorem struct_in_bounds (env : SerEnv) (pfx : String) (args : Args) (S : Struct) (hS : RootOK S) (s : SerSt) (L : Nat)
    (hsmall : 8 * L + S.align ≤ 2 ^ 32) (hlen : s.buf.length = L) (h0 : s.oob = false)
    (hfit : structEndN pfx args S s.at_ ≤ 8 * L) :
    (serRoot env pfx (buildRoot specNone S) args s).oob = false ∧
    (serRoot env pfx (buildRoot specNone S) args s).at_ = structEndN pfx args S s.at_ := by
  have e := structEndS_none pfx args S (fun m hm => (hS.members m hm).1) s.at_
  have := root_in_bounds env specNone pfx args S hS.toS s L hsmall hlen h0 (e ▸ hfit)
  exact ⟨this.1, this.2.1.trans e⟩

/-- (3) while nothing wraps, the `uint32_t` size pass computes the true end -/
theorem size_exact (pfx : String) (args : Args) (S : Struct) (hS : RootOK S) (a : Nat)
    (h : structEndN pfx args S a + S.align + 8 ≤ 2 ^ 32) :
    sizeRoot pfx (buildRoot specNone S) args a = structEndN pfx args S a := by
  -- serialise into a fictitious buffer that is large enough: rounding the end up to whole bytes costs the `+ 8`, the
  -- room `struct_in_bounds` wants above the buffer for one alignment the `+ S.align`
  let L := (structEndN pfx args S a + 7) / 8
  let env : SerEnv := ⟨.le, false, [], 0, 0, 0, 0, 0⟩
  let s : SerSt := ⟨List.replicate L 0, a, [], [], false, []⟩
  have h1 := size_eq_ser env pfx args S hS s
  have h2 := struct_in_bounds env pfx args S hS s L (by show 8 * ((structEndN pfx args S a + 7) / 8) + S.align ≤ _; omega)
    (by simp [s]) rfl (by show structEndN pfx args S a ≤ 8 * ((structEndN pfx args S a + 7) / 8); omega)
  exact h1.trans h2.2

end BVM
