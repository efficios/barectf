/-
  Proofs/RtPos.lean — the position invariant along every history of the runtime model, for a platform whose packet
  buffers all have the same size (C02, global statement; also what C06's position clauses need):

      not halted  ∧  buffer length = L  ∧  packet_size = 8·L  ∧  at ≤ packet_size
      ∧  (packet open → the saved offsets of the written-back fields are inside the buffer, start bits truthful)

  is kept by every API call and callback of Model/Rt.lean, whatever the platform script (answers of the back end,
  clock, toggles of `is_tracing_enabled` at any callback, order of the calls — misuse included), under the
  property's precondition (the buffer holds the packet header and context) and the `uint32_t` no-wrap conditions.
  "Not halted" is "no store outside the buffer": the model halts exactly on such a store (`installSer`).

  What the three writing parts of the tracer do is said once, for a buffer of any length (`openWrite_eq`,
  `closeWrite_eq`, `traceStore_eq`: a serialisation that stays inside the buffer, `Inside`, then the ghost event and
  the bookkeeping); the invariant here and the one of Proofs/RtPosB.lean are read off these, and carried through the
  control structure by the rules of Proofs/RtRules.lean.
-/
import BVM.Proofs.Saved
import BVM.Proofs.RecordBounds
import BVM.Proofs.RtRules
namespace BVM


/-- the end of packet header + packet context written from bit 0 (unbounded arithmetic) -/
def hdrEndN (cfg : Cfg) (d : DST) (args : Args) : Nat :=
  structEndS specPC "pc" args d.pcStruct (structEndS specPH "ph" [] cfg.phStruct 0)

/-- static hypotheses on the configuration (what the front end guarantees): alignments are powers of two bounded by
    `A`, templates apply to integer members, member names of the packet context are distinct, no UUID member in it -/
structure CfgOK (A : Nat) (cfg : Cfg) (d : DST) : Prop where
  ph : RootOKS specPH cfg.phStruct
  phA : cfg.phStruct.align ≤ A
  pc : RootOKS specPC d.pcStruct
  pcA : d.pcStruct.align ≤ A
  pcNames : (d.pcStruct.members.map (·.name)).Nodup
  pcNoUuid : ∀ m ∈ d.pcStruct.members, m.ft ≠ .uuid
  recs : ∀ e ∈ d.erts, RecordOK A d e
  Apos : 0 < A

/-! ### where the records of the current packet end -/

/-- the end of the newest record of the current packet, or the beginning of the packet content when it has none
    (`opened`/`recDone` are the ghost events logged when the opening function finishes and when a record has been
    serialised) -/
def hw : List Ev → Nat
  | [] => 0
  | .opened oc :: _ => oc
  | .recDone _ _ e :: _ => e
  | _ :: l => hw l

/-- every record begins at or after the end of the previous record of its packet — or after the packet context when it
    is the first — ends at or after its beginning, and ends inside the first `M` bits; every closing saves as content size
    exactly the end of the last record of its packet (or of the packet context), inside the first `M` bits -/
def ChainOK (M : Nat) : List Ev → Prop
  | [] => True
  | .recDone _ s e :: l => hw l ≤ s ∧ s ≤ e ∧ e ≤ M ∧ ChainOK M l
  | .opened oc :: l => oc ≤ M ∧ ChainOK M l
  | .closed cs _ _ :: l => cs = hw l ∧ cs ≤ M ∧ ChainOK M l
  | _ :: l => ChainOK M l

/-- a logged store lies inside a buffer of `L` bytes (any other event: no condition) -/
def StoreIn (L : Nat) : Ev → Prop
  | .store o n _ _ => o + n ≤ L
  | _ => True

/-- an event that is neither an opening nor a record -/
def Neutral (e : Ev) : Prop := (∀ l, hw (e :: l) = hw l) ∧ (∀ M l, ChainOK M (e :: l) = ChainOK M l)

theorem neutral_append (new old : List Ev) (h : ∀ e ∈ new, Neutral e) (M : Nat) :
    hw (new ++ old) = hw old ∧ (ChainOK M (new ++ old) = ChainOK M old) := by
  induction new with
  | nil => exact ⟨rfl, rfl⟩
  | cons e es ih =>
    obtain ⟨i1, i2⟩ := ih (fun x hx => h x (by simp [hx]))
    obtain ⟨h1, h2⟩ := h e (by simp)
    exact ⟨by rw [List.cons_append, h1, i1], by rw [List.cons_append, h2, i2]⟩

theorem Ext.hw {s s' : St} (h : Ext Neutral s s') : hw s'.log = hw s.log := by
  obtain ⟨new, e, p⟩ := h
  rw [e]; exact (neutral_append new s.log p 0).1

theorem Ext.chain {s s' : St} (h : Ext Neutral s s') (M : Nat) : ChainOK M s'.log = ChainOK M s.log := by
  obtain ⟨new, e, p⟩ := h
  rw [e]; exact (neutral_append new s.log p M).2

/-- what `ChainOK` says of one record of the log: it begins at or after the end of whatever its packet held before it
    (`hw` of the older part of the log: the previous record's end, or the end of the packet context), and ends inside
    the first `M` bits -/
theorem ChainOK.record {M : Nat} : ∀ (pre : List Ev) (n : String) (a b : Nat) (rest : List Ev),
    ChainOK M (pre ++ Ev.recDone n a b :: rest) → hw rest ≤ a ∧ a ≤ b ∧ b ≤ M
  | [], _, _, _, _, h => ⟨h.1, h.2.1, h.2.2.1⟩
  | e :: pre, n, a, b, rest, h => by
    have ih := ChainOK.record (M := M) pre n a b rest
    rw [List.cons_append] at h
    cases e <;> simp only [ChainOK] at h <;> first | exact ih h | exact ih h.2 | exact ih h.2.2.2 | exact ih h.2.2

/-- what `ChainOK` says of one closing of the log: the content size it saved is the end of whatever its packet held -/
theorem ChainOK.closing {M : Nat} : ∀ (pre : List Ev) (cs sn dc : Nat) (rest : List Ev),
    ChainOK M (pre ++ Ev.closed cs sn dc :: rest) → cs = hw rest ∧ cs ≤ M
  | [], _, _, _, _, h => ⟨h.1, h.2.1⟩
  | e :: pre, cs, sn, dc, rest, h => by
    have ih := ChainOK.closing (M := M) pre cs sn dc rest
    rw [List.cons_append] at h
    cases e <;> simp only [ChainOK] at h <;> first | exact ih h | exact ih h.2 | exact ih h.2.2.2 | exact ih h.2.2


structure PInv (d : DST) (L : Nat) (oa : List Args) (s : St) : Prop where
  nh : s.halted = false
  len : s.buf.length = L
  pkt : s.c.packetSize = 8 * L
  at_ : s.c.at_ ≤ 8 * L
  sv : s.c.packetIsOpen = true → SavedOK d.pcOp.members s.c.saved (8 * L)
  oa : s.p.openArgs = oa
  sb : ∀ x ∈ s.p.setBufs, x.2 = L
  oc : s.c.packetIsOpen = true → s.c.offContent ≤ s.c.at_
  cz : s.c.contentSize ≤ 8 * L
  hwle : hw s.log ≤ s.c.at_
  hweq : s.c.packetIsOpen = true → hw s.log = s.c.at_
  chain : ChainOK (8 * L) s.log
  stin : ∀ e ∈ s.log, StoreIn L e

/-- what the invariant looks at is unchanged -/
structure PSame (s s' : St) : Prop where
  nh : s'.halted = s.halted
  len : s'.buf.length = s.buf.length
  pkt : s'.c.packetSize = s.c.packetSize
  at_ : s'.c.at_ = s.c.at_
  saved : s'.c.saved = s.c.saved
  isOpen : s'.c.packetIsOpen = s.c.packetIsOpen
  oa : s'.p.openArgs = s.p.openArgs
  sb : s'.p.setBufs = s.p.setBufs
  offc : s'.c.offContent = s.c.offContent
  csz : s'.c.contentSize = s.c.contentSize
  ext : Ext Neutral s s'
  sin : ∀ L, Ext (StoreIn L) s s'

theorem PSame.refl (s : St) : PSame s s := ⟨rfl, rfl, rfl, rfl, rfl, rfl, rfl, rfl, rfl, rfl, Ext.refl _ _, fun _ => Ext.refl _ _⟩
theorem PSame.trans {a b c : St} (h₁ : PSame a b) (h₂ : PSame b c) : PSame a c :=
  ⟨h₂.nh.trans h₁.nh, h₂.len.trans h₁.len, h₂.pkt.trans h₁.pkt, h₂.at_.trans h₁.at_, h₂.saved.trans h₁.saved,
   h₂.isOpen.trans h₁.isOpen, h₂.oa.trans h₁.oa, h₂.sb.trans h₁.sb, h₂.offc.trans h₁.offc, h₂.csz.trans h₁.csz,
   h₁.ext.trans h₂.ext, fun L => (h₁.sin L).trans (h₂.sin L)⟩

theorem PSame.inv {d : DST} {L : Nat} {oa : List Args} {s s' : St} (h : PSame s s') (hi : PInv d L oa s) :
    PInv d L oa s' :=
  ⟨h.nh.trans hi.nh, h.len.trans hi.len, h.pkt.trans hi.pkt, by rw [h.at_]; exact hi.at_,
   by rw [h.isOpen, h.saved]; exact hi.sv, h.oa.trans hi.oa, by rw [h.sb]; exact hi.sb,
   by rw [h.isOpen, h.offc, h.at_]; exact hi.oc, by rw [h.csz]; exact hi.cz,
   by rw [h.ext.hw, h.at_]; exact hi.hwle, by rw [h.isOpen, h.ext.hw, h.at_]; exact hi.hweq,
   by rw [h.ext.chain]; exact hi.chain, (h.sin L).all hi.stin⟩

theorem PSame.ev (s : St) (e : Ev) (h : Neutral e := by exact ⟨fun _ => rfl, fun _ _ => rfl⟩)
    (h2 : ∀ L, StoreIn L e := by intro _; trivial) : PSame s (s.ev e) :=
  ⟨rfl, rfl, rfl, rfl, rfl, rfl, rfl, rfl, rfl, rfl, Ext.ev s e h, fun L => Ext.ev s e (h2 L)⟩
theorem PSame.setFlag (s : St) (b : Bool) : PSame s (s.setFlag b) :=
  ⟨rfl, rfl, rfl, rfl, rfl, rfl, rfl, rfl, rfl, rfl, Ext.of_log_eq rfl, fun _ => Ext.of_log_eq rfl⟩
theorem PSame.setEnabled (s : St) (b : Bool) : PSame s (s.setEnabled b) :=
  ⟨rfl, rfl, rfl, rfl, rfl, rfl, rfl, rfl, rfl, rfl, Ext.of_log_eq rfl, fun _ => Ext.of_log_eq rfl⟩
theorem PSame.setUseCur (s : St) (b : Bool) : PSame s (s.setUseCur b) :=
  ⟨rfl, rfl, rfl, rfl, rfl, rfl, rfl, rfl, rfl, rfl, Ext.of_log_eq rfl, fun _ => Ext.of_log_eq rfl⟩
theorem PSame.setCurTs (s : St) (v : Nat) : PSame s (s.setCurTs v) :=
  ⟨rfl, rfl, rfl, rfl, rfl, rfl, rfl, rfl, rfl, rfl, Ext.of_log_eq rfl, fun _ => Ext.of_log_eq rfl⟩
theorem PSame.setDiscarded (s : St) (v : Nat) : PSame s (s.setDiscarded v) :=
  ⟨rfl, rfl, rfl, rfl, rfl, rfl, rfl, rfl, rfl, rfl, Ext.of_log_eq rfl, fun _ => Ext.of_log_eq rfl⟩
theorem PSame.setSeqNum (s : St) (v : Nat) : PSame s (s.setSeqNum v) :=
  ⟨rfl, rfl, rfl, rfl, rfl, rfl, rfl, rfl, rfl, rfl, Ext.of_log_eq rfl, fun _ => Ext.of_log_eq rfl⟩

theorem PCb.neutral {f : Bool} (e : Ev) (h : PCb f e) : Neutral e ∧ ∀ L, StoreIn L e := by
  cases e <;> first | exact ⟨⟨fun _ => rfl, fun _ _ => rfl⟩, fun _ => trivial⟩ | exact h.elim

theorem PSer.neutral {f : Bool} (e : Ev) (h : PSer f e) : Neutral e := by
  cases e <;> first | exact ⟨fun _ => rfl, fun _ _ => rfl⟩ | exact h.elim

theorem Plumb.psame {s s' : St} (h : Plumb s s') : PSame s s' :=
  ⟨h.halted, congrArg List.length h.buf, (congrArg Ctx.packetSize h.ctx :), (congrArg Ctx.at_ h.ctx :),
   (congrArg Ctx.saved h.ctx :), (congrArg Ctx.packetIsOpen h.ctx :), h.openArgs, h.setBufs,
   (congrArg Ctx.offContent h.ctx :), (congrArg Ctx.contentSize h.ctx :),
   h.log.mono fun e he => (PCb.neutral e he).1, fun L => h.log.mono fun e he => (PCb.neutral e he).2 L⟩

theorem noSpace_psame (cf : Bool) (s : St) : PSame s (noSpace cf s).2 :=
  (PSame.ev s (.discard cf)).trans (PSame.setDiscarded _ _)

/-! ### a serialisation pass that stays inside the buffer -/

/-- the stores a pass logs without raising `oob` are inside the buffer -/
theorem runSer_sin (L : Nat) (f : SerSt → SerSt) (hf : ∀ st, StoresGood L st → StoresGood L (f st)) (s : St) (hlen : s.buf.length = L)
    (h : (f { buf := s.buf, at_ := s.c.at_, saved := s.c.saved, stores := [], oob := false, leaves := [] }).oob = false) :
    Ext (StoreIn L) s (runSer f s) := by
  have hst := pass_stores_in L f hf s.buf s.c.at_ s.c.saved hlen h
  unfold runSer installSer
  simp only [h, Bool.false_eq_true, if_false]
  refine ⟨_, rfl, ?_⟩
  intro e he
  obtain ⟨x, hx, rfl⟩ := List.mem_map.mp he
  exact hst x hx

/-- a step all of whose stores are inside the buffer: the run has not halted, the buffer keeps its length, of the context
    only the position and the saved offsets change, the events logged open or close no packet and end no record -/
structure Inside (s s' : St) : Prop where
  nh : s'.halted = false
  len : s'.buf.length = s.buf.length
  ctx : s'.c = { s.c with at_ := s'.c.at_, saved := s'.c.saved }
  p : s'.p = s.p
  ext : Ext Neutral s s'
  sin : Ext (StoreIn s.buf.length) s s'

theorem Inside.trans {a b c : St} (h₁ : Inside a b) (h₂ : Inside b c) : Inside a c :=
  ⟨h₂.nh, h₂.len.trans h₁.len, by rw [h₂.ctx, h₁.ctx], h₂.p.trans h₁.p, h₁.ext.trans h₂.ext,
   h₁.sin.trans (h₁.len ▸ h₂.sin)⟩

theorem Inside.setAt (s : St) (a : Nat) (hh : s.halted = false) : Inside s (s.setAt a) :=
  ⟨hh, rfl, rfl, rfl, Ext.of_log_eq rfl, Ext.of_log_eq rfl⟩

theorem Inside.pkt {s s' : St} (h : Inside s s') : s'.c.packetSize = s.c.packetSize := (congrArg Ctx.packetSize h.ctx :)
theorem Inside.csz {s s' : St} (h : Inside s s') : s'.c.contentSize = s.c.contentSize := (congrArg Ctx.contentSize h.ctx :)
theorem Inside.isOpen {s s' : St} (h : Inside s s') : s'.c.packetIsOpen = s.c.packetIsOpen := (congrArg Ctx.packetIsOpen h.ctx :)
theorem Inside.offc {s s' : St} (h : Inside s s') : s'.c.offContent = s.c.offContent := (congrArg Ctx.offContent h.ctx :)
theorem Inside.en {s s' : St} (h : Inside s s') : s'.c.isTracingEnabled = s.c.isTracingEnabled :=
  (congrArg Ctx.isTracingEnabled h.ctx :)

/-- the ghost event that records the value written to a timestamp field -/
theorem Inside.tsWrite {s s' : St} (h : Inside s s') (k : String) (v : Nat) : Inside s (s'.ev (.tsWrite k v)) :=
  h.trans ⟨h.nh, rfl, rfl, rfl, Ext.ev _ _ ⟨fun _ => rfl, fun _ _ => rfl⟩, Ext.ev _ _ trivial⟩

/-- a pass that does not raise `oob` -/
theorem runSer_inside (f : SerSt → SerSt) (s : St) (hf : ∀ st, StoresGood s.buf.length st → StoresGood s.buf.length (f st))
    (hh : s.halted = false) :
    let r := f { buf := s.buf, at_ := s.c.at_, saved := s.c.saved, stores := [], oob := false, leaves := [] }
    r.oob = false → Inside s (runSer f s) ∧ (runSer f s).c.at_ = r.at_ ∧ (runSer f s).c.saved = r.saved := by
  intro r h
  have hst := runSer_step f s
  have hq : (runSer f s).halted = false ∧ (runSer f s).buf = r.buf ∧ (runSer f s).c.at_ = r.at_ ∧
      (runSer f s).c.saved = r.saved := by
    unfold runSer installSer
    simp only [show (f _).oob = false from h, Bool.false_eq_true, if_false]
    exact ⟨hh, rfl, rfl, rfl⟩
  exact ⟨⟨hq.1, by rw [hq.2.1]; exact (hf _ (fun _ => ⟨rfl, fun _ hx => (List.not_mem_nil hx).elim⟩) h).1, hst.ctx, hst.p,
    hst.log.mono PSer.neutral, runSer_sin s.buf.length f hf s rfl h⟩, hq.2.2⟩

section
variable {cfg : Cfg} {d : DST} {L A : Nat} {oa : List Args}

/-! ### opening -/

/-- **what the opening function does** on a buffer that holds packet header and packet context: both are serialised
    inside the buffer, from bit 0; the position is then the end of the packet context, the offsets of the fields the
    closing function writes back are saved and inside the buffer; the packet is marked open with its content beginning
    at that position -/
theorem openWrite_eq (hcfg : CfgOK A cfg d) (args : Args) (ts : Nat) (saved : Bool) (s : St) (hnh : s.halted = false)
    (hsmall : 8 * s.buf.length + A ≤ 2 ^ 32) (hfit : hdrEndN cfg d args ≤ 8 * s.buf.length) :
    ∃ s₂, Inside s s₂ ∧ s₂.c.at_ ≤ 8 * s.buf.length ∧ SavedOK d.pcOp.members s₂.c.saved (8 * s.buf.length) ∧
      openWrite cfg d args ts saved s = { s₂ with
        c := { s₂.c with offContent := s₂.c.at_, packetIsOpen := true, inTracingSection := saved }
        log := .opened s₂.c.at_ :: s₂.log } := by
  unfold hdrEndN at hfit
  refine openWrite_rule s ?_
    (P₂ := fun s₂ => Inside s s₂ ∧ s₂.c.at_ ≤ 8 * s.buf.length ∧ SavedOK d.pcOp.members s₂.c.saved (8 * s.buf.length))
    (Q := fun s' => ∃ s₂, Inside s s₂ ∧ s₂.c.at_ ≤ 8 * s.buf.length ∧ SavedOK d.pcOp.members s₂.c.saved (8 * s.buf.length) ∧
      s' = { s₂ with
        c := { s₂.c with offContent := s₂.c.at_, packetIsOpen := true, inTracingSection := saved }
        log := .opened s₂.c.at_ :: s₂.log })
    (fun _ h hh => nomatch h.1.nh.symm.trans hh) (fun _ h _ => ⟨h.1.tsWrite "begin" ts, h.2⟩)
    fun s₂ h _ => ⟨s₂, h.1, h.2.1, h.2.2, rfl⟩
  generalize serEnvOf cfg d 0 ts (s.setAt 0).c = env
  obtain ⟨p1, p2, p3⟩ := root_in_bounds env specPH "ph" [] cfg.phStruct hcfg.ph
    { buf := s.buf, at_ := 0, saved := s.c.saved, stores := [], oob := false, leaves := [] } s.buf.length
    (by have := hcfg.phA; omega) rfl rfl (Nat.le_trans (structEndS_mono specPC "pc" args d.pcStruct hcfg.pc _) hfit)
  rw [← p2] at hfit
  have hpc := root_in_bounds env specPC "pc" args d.pcStruct hcfg.pc _ s.buf.length (by have := hcfg.pcA; omega) p3 p1 hfit
  have hsv := pc_saved_ok env s.buf.length d args _ hcfg.pc hcfg.pcNames (by have := hcfg.pcA; omega) p3 p1 hfit
  obtain ⟨h2, hat, hsaved⟩ := runSer_inside
    (fun st => serRoot env "pc" d.pcOp args (serRoot env "ph" (DST.phOp cfg) [] st)) (s.setAt 0)
    (fun st h => serRoot_good _ env "pc" _ args _ (serRoot_good _ env "ph" _ [] st h)) hnh hpc.1
  exact ⟨(Inside.setAt s 0 hnh).trans h2, hat ▸ Nat.le_trans (Nat.le_of_eq hpc.2.1) hfit, hsaved ▸ hsv⟩

theorem openWrite_pinv (hcfg : CfgOK A cfg d) (hsmall : 8 * L + A ≤ 2 ^ 32) (args : Args)
    (hfit : hdrEndN cfg d args ≤ 8 * L) (ts : Nat) (saved : Bool) (s : St) (hi : PInv d L oa s) :
    PInv d L oa (openWrite cfg d args ts saved s) := by
  obtain rfl := hi.len
  obtain ⟨s₂, h, hat, hsv, heq⟩ := openWrite_eq hcfg args ts saved s hi.nh hsmall hfit
  rw [heq]
  exact ⟨h.nh, h.len, h.pkt.trans hi.pkt, hat, fun _ => hsv, h.p ▸ hi.oa, h.p ▸ hi.sb, fun _ => Nat.le_refl _,
    h.csz ▸ hi.cz, Nat.le_refl _, fun _ => rfl, ⟨hat, (h.ext.chain _).mpr hi.chain⟩,
    List.forall_mem_cons.2 ⟨trivial, h.sin.all hi.stin⟩⟩

/-! ### closing -/

/-- a write-back of the closing function stores inside the buffer, at the offset saved for it, and leaves the saved offsets
    alone -/
theorem writeBack_inside (hcfg : CfgOK A cfg d) (env : SerEnv) (name : String)
    (hskip : ((specPC name).getD .arg).isSkip = true) (v : Int) (s0 s : St) (hsmall : 8 * s0.buf.length + A ≤ 2 ^ 32)
    (hsv : SavedOK d.pcOp.members s0.c.saved (8 * s0.buf.length)) (hi : Inside s0 s ∧ s.c.saved = s0.c.saved) :
    Inside s0 (writeBack env d name v s) ∧ (writeBack env d name v s).c.saved = s0.c.saved := by
  unfold writeBack
  split
  · exact hi
  · split
    · exact hi
    · rename_i w hw
      have hsrc : w.src = (specPC name).getD .arg := findWrite_src specPC name w d.pcStruct.members _ hcfg.pcNoUuid hw
      obtain ⟨off, h1, h2, h3⟩ := hsv name w hw (by rw [hsrc]; exact hskip)
      have hoff : (s.c.saved.lookup name).getD 0 = off := by rw [hi.2, h1]; rfl
      rw [hoff]
      have hin := writeBits_in env w.sc v
        { buf := s.buf, at_ := off, saved := s.c.saved, stores := [], oob := false, leaves := [] } rfl
        (by show off + w.sc.size ≤ 8 * s.buf.length; rw [hi.1.len]; exact h2)
        (by show 8 * s.buf.length < 2 ^ 32; rw [hi.1.len]; have := hcfg.Apos; omega)
      rw [← writeBits_erase env w.sc w.oib v _ h3] at hin
      obtain ⟨h4, -, hsaved⟩ := runSer_inside (fun st => writeBits env w.sc w.oib v st) (s.setAt off)
        (fun st h => writeBits_good _ env w.sc w.oib v st h) hi.1.nh hin.1
      exact ⟨hi.1.trans ((Inside.setAt s off hi.1.nh).trans h4), by rw [hsaved, writeBits_saved]; exact hi.2⟩

theorem closeBacks_inside (hcfg : CfgOK A cfg d) (ts : Nat) (s : St) (hnh : s.halted = false)
    (hsmall : 8 * s.buf.length + A ≤ 2 ^ 32) (hsv : SavedOK d.pcOp.members s.c.saved (8 * s.buf.length)) :
    Inside s (closeBacks cfg d ts s) := by
  refine (closeBacks_rule (P := fun s' => Inside s s' ∧ s'.c.saved = s.c.saved) cfg d ts s (fun name v s' hm h => ?_)
    ⟨⟨hnh, rfl, rfl, rfl, Ext.refl _ _, Ext.refl _ _⟩, rfl⟩).1
  have hskip : ((specPC name).getD .arg).isSkip = true := by
    simp only [List.mem_cons, List.not_mem_nil, or_false] at hm
    rcases hm with rfl | rfl | rfl <;> rfl
  exact writeBack_inside hcfg _ name hskip v s s' hsmall hsv h

/-- **what the closing function does** on an open packet: the position is saved as content size, the write-backs store
    inside the buffer, the `closed` event carries the content size saved, and the position is parked at the end of the
    packet -/
theorem closeWrite_eq (hcfg : CfgOK A cfg d) (ts : Nat) (saved : Bool) (s : St) (hnh : s.halted = false)
    (hsmall : 8 * s.buf.length + A ≤ 2 ^ 32) (hsv : SavedOK d.pcOp.members s.c.saved (8 * s.buf.length)) :
    ∃ s₃ sn, Inside (s.setContentSize s.c.at_) s₃ ∧ closeWrite cfg d ts saved s =
      { s₃ with
        c := { s₃.c with at_ := s₃.c.packetSize, packetIsOpen := false, sequenceNumber := sn, inTracingSection := saved }
        log := .closed s₃.c.contentSize s₃.c.sequenceNumber s₃.c.eventsDiscarded :: s₃.log } :=
  closeWrite_rule s (closeBacks_inside hcfg ts _ hnh hsmall hsv) (P₂ := Inside (s.setContentSize s.c.at_))
    (Q := fun s' => ∃ s₃ sn, Inside (s.setContentSize s.c.at_) s₃ ∧ s' =
      { s₃ with
        c := { s₃.c with at_ := s₃.c.packetSize, packetIsOpen := false, sequenceNumber := sn, inTracingSection := saved }
        log := .closed s₃.c.contentSize s₃.c.sequenceNumber s₃.c.eventsDiscarded :: s₃.log })
    (fun _ h hh => nomatch h.nh.symm.trans hh) (fun _ h _ => h.tsWrite "end" ts) fun s₃ h _ => ⟨s₃, _, h, rfl⟩

theorem closeWrite_pinv (hcfg : CfgOK A cfg d) (hsmall : 8 * L + A ≤ 2 ^ 32) (ts : Nat) (saved : Bool) (s : St)
    (hi : PInv d L oa s) (ho : s.c.packetIsOpen = true) : PInv d L oa (closeWrite cfg d ts saved s) := by
  obtain rfl := hi.len
  obtain ⟨s₃, sn, h, heq⟩ := closeWrite_eq hcfg ts saved s hi.nh hsmall (hi.sv ho)
  have hpk : s₃.c.packetSize = 8 * s.buf.length := h.pkt.trans hi.pkt
  have hcs : s₃.c.contentSize = s.c.at_ := h.csz
  have hhw : hw s₃.log = s.c.at_ := h.ext.hw.trans (hi.hweq ho)
  rw [heq]
  exact ⟨h.nh, h.len, hpk, Nat.le_of_eq hpk, nofun, h.p ▸ hi.oa, h.p ▸ hi.sb, nofun, hcs ▸ hi.at_,
    Nat.le_trans (Nat.le_of_eq hhw) (hpk ▸ hi.at_), nofun,
    ⟨hcs.trans hhw.symm, hcs ▸ hi.at_, (h.ext.chain _).mpr hi.chain⟩, List.forall_mem_cons.2 ⟨trivial, h.sin.all hi.stin⟩⟩

theorem setBuf_pinv (hsmall : 8 * L + A ≤ 2 ^ 32) (hA : 0 < A) (s : St) (hi : PInv d L oa s) : PInv d L oa (setBuf L s) := by
  have hu : u32 (L * 8) = 8 * L := by simp only [u32]; omega
  unfold setBuf
  simp only [hu]
  split
  · rename_i hfull
    have hfull' : s.c.at_ = 8 * L := by rw [← hi.pkt]; simpa using hfull
    exact ⟨hi.nh, by simp, rfl, Nat.le_refl _, hi.sv, hi.oa, hi.sb,
      fun h => Nat.le_trans (hi.oc h) hi.at_, hi.cz, Nat.le_trans hi.hwle hi.at_,
      fun h => (hi.hweq h).trans hfull', hi.chain, hi.stin⟩
  · exact ⟨hi.nh, by simp, rfl, hi.at_, hi.sv, hi.oa, hi.sb, hi.oc, hi.cz, hi.hwle, hi.hweq, hi.chain, hi.stin⟩

theorem callbacks_pinv (hcfg : CfgOK A cfg d) (hsmall : 8 * L + A ≤ 2 ^ 32)
    (hhdr : ∀ args ∈ openArgsOf oa, hdrEndN cfg d args ≤ 8 * L) :
    (∀ s, PInv d L oa s → PInv d L oa (cbOpen cfg d s)) ∧ (∀ s, PInv d L oa s → PInv d L oa (cbClose cfg d s)) :=
  callbacks_keep (fun _ _ hi h => h.psame.inv hi) (fun s b hi => (PSame.setFlag s b).inv hi)
    (fun args ts saved s hi _ ha => openWrite_pinv hcfg hsmall args (hhdr args (hi.oa ▸ ha)) ts saved s hi)
    (fun ts saved s hi ho => closeWrite_pinv hcfg hsmall ts saved s hi ho)
    (fun _ _ hi => (PSame.ev _ _).inv hi)
    fun _ bytes s hi hm => by
      obtain rfl : bytes = L := hi.sb _ hm
      exact setBuf_pinv hsmall hcfg.Apos s hi

/-! ### the tracing function -/

/-- the record's true end does not wrap `uint32_t`, wherever in the packet it starts -/
def ArgsSmall (d : DST) (L A : Nat) (e : ERT) (args : Args) : Prop :=
  ∀ a, a ≤ 8 * L → recordEndN d e args a + A + 8 ≤ 2 ^ 32

/-- **the fit test of a tracing function is the right one**: when `_er_size_*`, computed at the position, is at most the
    room left in the packet, the record is serialised inside the buffer and ends inside the packet, at or after the
    position; the saved offsets are left alone -/
theorem runSer_record {e : ERT} (hok : RecordOK A d e) (env : SerEnv) (args : Args) (s : St) (hp : PosOK A s)
    (hnw : recordEndN d e args s.c.at_ + A + 8 ≤ 2 ^ 32) (hfit : erSizeAt d e args s.c.at_ ≤ s.c.room s.c.at_) :
    Inside s (runSer (serRecord env d e args) s) ∧ (runSer (serRecord env d e args) s).c.saved = s.c.saved ∧
      s.c.at_ ≤ (runSer (serRecord env d e args) s).c.at_ ∧ (runSer (serRecord env d e args) s).c.at_ ≤ s.c.packetSize := by
  have hle := recordEndN_ge A d e hok args s.c.at_
  have hroom : s.c.room s.c.at_ = s.c.packetSize - s.c.at_ := by
    unfold Ctx.room subU32
    rw [if_pos hp.at_]
  rw [erSizeAt_exact A d e hok args s.c.at_ hnw hle, hroom] at hfit
  have hend : recordEndN d e args s.c.at_ ≤ s.c.packetSize := by have := hp.at_; omega
  have hrb := record_in_bounds env A d e hok args
    { buf := s.buf, at_ := s.c.at_, saved := s.c.saved, stores := [], oob := false, leaves := [] }
    s.buf.length hp.small rfl rfl (hp.pkt ▸ hend)
  obtain ⟨h1, hat, hsaved⟩ := runSer_inside (serRecord env d e args) s (fun st h => serRecord_good _ _ d e args st h)
    hp.notHalted hrb.1
  rw [hat, hrb.2.1]
  exact ⟨h1, by rw [hsaved, serRecord_saved], hle, hend⟩

/-- **what a tracing function does once the fit test has passed**: the record is serialised as `runSer_record` says, and
    logged with the bits it occupies -/
theorem traceStore_eq {e : ERT} (hok : RecordOK A d e) (args : Args) (s : St) (hp : PosOK A s)
    (hnw : recordEndN d e args s.c.at_ + A + 8 ≤ 2 ^ 32) (hfit : erSizeAt d e args s.c.at_ ≤ s.c.room s.c.at_) :
    ∃ s₂, Inside s s₂ ∧ s₂.c.saved = s.c.saved ∧ s.c.at_ ≤ s₂.c.at_ ∧ s₂.c.at_ ≤ s.c.packetSize ∧
      traceStore cfg d e args s = s₂.ev (.recDone e.name s.c.at_ s₂.c.at_) :=
  traceStore_rule s (runSer_record hok _ args s hp hnw hfit)
    (P₂ := fun s₂ => Inside s s₂ ∧ s₂.c.saved = s.c.saved ∧ s.c.at_ ≤ s₂.c.at_ ∧ s₂.c.at_ ≤ s.c.packetSize)
    (Q := fun s' => ∃ s₂, Inside s s₂ ∧ s₂.c.saved = s.c.saved ∧ s.c.at_ ≤ s₂.c.at_ ∧ s₂.c.at_ ≤ s.c.packetSize ∧
      s' = s₂.ev (.recDone e.name s.c.at_ s₂.c.at_))
    (fun _ h hh => nomatch h.1.nh.symm.trans hh) (fun _ h _ => ⟨h.1.tsWrite "rec" _, h.2⟩)
    fun s₂ h _ => ⟨s₂, h.1, h.2.1, h.2.2.1, h.2.2.2, rfl⟩

theorem PInv.posOK {d : DST} {L : Nat} {oa : List Args} {s : St} (A : Nat) (hsmall : 8 * L + A ≤ 2 ^ 32)
    (hi : PInv d L oa s) : PosOK A s :=
  ⟨hi.nh, by rw [hi.pkt, hi.len], by rw [hi.pkt]; exact hi.at_, by rw [hi.len]; exact hsmall⟩

/-- the record just serialised occupies `[at before, at now)`: after everything logged for this packet so far -/
theorem traceStore_pinv (hcfg : CfgOK A cfg d) (hsmall : 8 * L + A ≤ 2 ^ 32) (e : ERT) (he : e ∈ d.erts) (args : Args)
    (hargs : ArgsSmall d L A e args) (s : St) (hi : PInv d L oa s) (hfit : erSizeAt d e args s.c.at_ ≤ s.c.room s.c.at_) :
    PInv d L oa (traceStore cfg d e args s) := by
  obtain ⟨s₂, h, hsv, hge, hle, heq⟩ :=
    traceStore_eq (cfg := cfg) (hcfg.recs e he) args s (hi.posOK A hsmall) (hargs _ hi.at_) hfit
  obtain rfl := hi.len
  rw [hi.pkt] at hle
  rw [heq]
  exact ⟨h.nh, h.len, h.pkt.trans hi.pkt, hle, fun ho => hsv ▸ hi.sv (h.isOpen ▸ ho), h.p ▸ hi.oa, h.p ▸ hi.sb,
    fun ho => Nat.le_trans (h.offc ▸ hi.oc (h.isOpen ▸ ho)) hge, h.csz ▸ hi.cz, Nat.le_refl _, fun _ => rfl,
    ⟨h.ext.hw ▸ hi.hwle, hge, hle, (h.ext.chain _).mpr hi.chain⟩, List.forall_mem_cons.2 ⟨trivial, h.sin.all hi.stin⟩⟩

theorem trace_pinv (hcfg : CfgOK A cfg d) (hsmall : 8 * L + A ≤ 2 ^ 32)
    (hhdr : ∀ args ∈ openArgsOf oa, hdrEndN cfg d args ≤ 8 * L) (e : ERT) (he : e ∈ d.erts) (args : Args)
    (hargs : ArgsSmall d L A e args) : ∀ s, PInv d L oa s → PInv d L oa (trace cfg d e args s) :=
  trace_keep (fun _ _ hi h => h.psame.inv hi) (fun s b hi => (PSame.setFlag s b).inv hi)
    (fun s b hi => (PSame.setUseCur s b).inv hi) (fun s v hi => (PSame.setCurTs s v).inv hi)
    (fun _ _ hi => (PSame.ev _ _).inv hi) (callbacks_pinv hcfg hsmall hhdr) (fun cf s hi => (noSpace_psame cf s).inv hi)
    fun s hi _ hfit => traceStore_pinv hcfg hsmall e he args hargs s hi hfit

/-! ### histories -/

/-- every tracing call of the history passes arguments whose record does not wrap `uint32_t` -/
def OpsSmall (d : DST) (L A : Nat) (ops : List Op) : Prop :=
  ∀ en args, Op.trace en args ∈ ops → ∀ e ∈ d.erts, e.name = en → ArgsSmall d L A e args

theorem runOps_pinv (hcfg : CfgOK A cfg d) (hsmall : 8 * L + A ≤ 2 ^ 32)
    (hhdr : ∀ args ∈ openArgsOf oa, hdrEndN cfg d args ≤ 8 * L) (ops : List Op) (hops : OpsSmall d L A ops) :
    ∀ s, PInv d L oa s → PInv d L oa (runOps cfg d ops s) :=
  runOps_rule (callbacks_pinv hcfg hsmall hhdr)
    (fun en args e hop he hn => trace_pinv hcfg hsmall hhdr e he args (hops en args hop e he hn))
    (fun b _ s hi => (PSame.setEnabled s b).inv hi) fun _ s hi _ => (PSame.ev _ _).inv hi

end

theorem rtInit_pinv (d : DST) (L A : Nat) (hA : 0 < A) (hsmall : 8 * L + A ≤ 2 ^ 32) (p : Plat) (hsb : ∀ x ∈ p.setBufs, x.2 = L) :
    PInv d L p.openArgs (rtInit L p) := by
  have hu : u32 (L * 8) = 8 * L := by simp only [u32]; omega
  refine ⟨rfl, by simp [rtInit], ?_, Nat.zero_le _, fun h => by simp [rtInit] at h, rfl, hsb,
    fun h => by simp [rtInit] at h, Nat.zero_le _, Nat.le_refl _, fun h => by simp [rtInit] at h, trivial,
    fun e he => by simp [rtInit] at he⟩
  show u32 (L * 8) = 8 * L
  exact hu

/-- the invariant holds after every history that starts at `barectf_init` -/
theorem runOps_init_pinv {cfg : Cfg} {d : DST} {L A : Nat} (hcfg : CfgOK A cfg d) (hsmall : 8 * L + A ≤ 2 ^ 32) (p : Plat)
    (hsb : ∀ x ∈ p.setBufs, x.2 = L) (hhdr : ∀ args ∈ openArgsOf p.openArgs, hdrEndN cfg d args ≤ 8 * L)
    (ops : List Op) (hops : OpsSmall d L A ops) : PInv d L p.openArgs (runOps cfg d ops (rtInit L p)) :=
  runOps_pinv hcfg hsmall hhdr ops hops _ (rtInit_pinv d L A hcfg.Apos hsmall p hsb)

end BVM
