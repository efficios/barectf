/-
  Proofs/NoInclude.lean — what the inclusion stage (`procInclude`) returns holds no `$include` property
  at any includable object, and every mapping of its includable skeleton holds a key at most once.

  Needs: every mapping of the document and of every file of the world holds a key at most once
  (`Y.dk`; true of anything PyYAML loads into a dictionary — with a key listed twice the second
  occurrence of a child property is not processed and can carry an `$include` into the result, so the
  hypothesis is necessary for the model).
  `procInclude_good` walks the stage once, with the rules of `FR.Sat` (Proofs/Comb.lean) for partial correctness.
-/
import BVM.Proofs.Fixed
import BVM.Proofs.Patch
namespace BVM

/-! ### distinct keys -/

mutual
def Y.dk : Y → Bool
  | .seq xs => Y.dkL xs
  | .map m => decide (kvKeys m).Nodup && Y.dkM m
  | _ => true
def Y.dkL : List Y → Bool
  | [] => true
  | x :: r => Y.dk x && Y.dkL r
def Y.dkM : KVs → Bool
  | [] => true
  | (_, v) :: r => Y.dk v && Y.dkM r
end

theorem dkM_mem : ∀ (m : KVs), Y.dkM m = true → ∀ kv ∈ m, kv.2.dk = true
  | [], _, kv, h => by simp at h
  | (k, v) :: r, hm, kv, h => by
    simp only [Y.dkM, Bool.and_eq_true] at hm
    rcases List.mem_cons.mp h with e | e
    · subst e; exact hm.1
    · exact dkM_mem r hm.2 kv e

theorem dk_map {m : KVs} (h : (Y.map m).dk = true) : (kvKeys m).Nodup ∧ ∀ kv ∈ m, kv.2.dk = true := by
  simp only [Y.dk, Bool.and_eq_true, decide_eq_true_eq] at h
  exact ⟨h.1, dkM_mem m h.2⟩

theorem dk_get {m : KVs} {k : String} {v : Y} (h : (Y.map m).dk = true) (hg : kvGet k m = some v) : v.dk = true :=
  (dk_map h).2 (k, v) (kvGet_mem hg)

/-! ### the skeleton of an inclusion-free node -/

def ChildGood (G : Kind → Y → Prop) : ChildSpec → Y → Prop
  | .single k', v => G k' v
  | .each k', v => ∃ cm, v = .map cm ∧ (kvKeys cm).Nodup ∧ ∀ kv ∈ cm, G k' kv.2

/-- `d` levels of the includable skeleton below a node of kind `kd`: a mapping, no `$include`, distinct keys,
    and each child property that is present has the shape its kind requires, recursively.
    `includeFree` (Proofs/Fixed) as a proposition, with two differences. Distinct keys are part of it: `kvGet` sees only
    the first entry under a key, while patching takes every entry of the overlay (`mem_iff_kvGet` closes the gap).
    Depth 0 is `True`, not `false`: then `Good d` is kept by patching and delivered by `procInclude` for every `d`, by
    induction on `d`; `good_includeFree` passes to `includeFree` once `d` is the rank of the kind. -/
def Good : Nat → Kind → Y → Prop
  | 0, _, _ => True
  | d + 1, kd, .map m =>
      kvGet "$include" m = none ∧ (kvKeys m).Nodup ∧
      ∀ cs ∈ kd.children, ∀ v, kvGet cs.1 m = some v → ChildGood (Good d) cs.2 v
  | _ + 1, _, _ => False

theorem good_succ_map {d : Nat} {kd : Kind} {y : Y} (h : Good (d + 1) kd y) : ∃ m, y = .map m := by
  cases y with
  | map m => exact ⟨m, rfl⟩
  | _ => exact False.elim h

/-! ### patching keeps it -/

theorem nodup_patchMap (v3 : Bool) (b o : KVs) (hb : (kvKeys b).Nodup) (ho : (kvKeys o).Nodup) :
    (kvKeys (patchMap v3 b o)).Nodup := by
  rw [kvKeys_patchMap v3 o b ho, List.nodup_append]
  refine ⟨hb, ho.sublist List.filter_sublist, fun a ha c hc e => ?_⟩
  subst e
  exact of_decide_eq_true (List.mem_filter.mp hc).2 ha

/-- good values are mappings (below depth 0), so merging them is patching them -/
theorem good_merge {v3 : Bool} {d : Nat} {k' : Kind}
    (hp : ∀ b o, Good d k' (.map b) → Good d k' (.map o) → Good d k' (.map (patchMap v3 b o)))
    (k : String) {bv ov : Y} (gb : Good d k' bv) (go : Good d k' ov) : Good d k' (merge v3 k bv ov) := by
  cases d with
  | zero => trivial
  | succ d' =>
    obtain ⟨bm, rfl⟩ := good_succ_map gb
    obtain ⟨om, rfl⟩ := good_succ_map go
    rw [merge_map_map]
    exact hp bm om gb go

theorem good_patch (v3 : Bool) : ∀ (d : Nat) (kd : Kind) (b o : KVs),
    Good d kd (.map b) → Good d kd (.map o) → Good d kd (.map (patchMap v3 b o))
  | 0, _, _, _, _, _ => trivial
  | d + 1, kd, b, o, ⟨hbi, hbn, hbc⟩, ⟨hoi, hon, hoc⟩ => by
    -- what holds of every property of base and overlay and is kept by `merge`: it is not `$include`, and if it is a
    -- child property it has the shape its kind asks for
    let P : String → Y → Prop := fun k v =>
      k ≠ "$include" ∧ ∀ cs ∈ kd.children, cs.1 = k → ChildGood (Good d) cs.2 v
    have hP : ∀ m : KVs, kvGet "$include" m = none →
        (∀ cs ∈ kd.children, ∀ v, kvGet cs.1 m = some v → ChildGood (Good d) cs.2 v) →
        ∀ k v, kvGet k m = some v → P k v :=
      fun m hi hc k v h =>
        ⟨fun e => (by rw [e, hi] at h; cases h), fun cs hcs e => hc cs hcs v (by rw [e]; exact h)⟩
    have hmerge : ∀ k bv ov, P k bv → P k ov → P k (merge v3 k bv ov) := by
      intro k bv ov ⟨hk, gb⟩ ⟨_, go⟩
      refine ⟨hk, fun cs hcs e => ?_⟩
      have gb := gb cs hcs e
      have go := go cs hcs e
      cases hs : cs.2 with
      | single k' => rw [hs] at gb go; exact good_merge (good_patch v3 d k') k gb go
      | each k' =>
        rw [hs] at gb go
        obtain ⟨bcm, rfl, hbcn, hbe⟩ := gb
        obtain ⟨ocm, rfl, hocn, hoe⟩ := go
        have hn := nodup_patchMap v3 bcm ocm hbcn hocn
        refine ⟨_, merge_map_map v3 _ bcm ocm, hn, fun kv hkv => ?_⟩
        exact patchMap_forall v3 (fun _ v => Good d k' v) (fun kk _ _ => good_merge (good_patch v3 d k') kk) ocm bcm
          (fun kk v h => hbe _ (kvGet_mem h)) hoe kv.1 kv.2 ((mem_iff_kvGet hn).mp hkv)
    have key := patchMap_forall v3 P hmerge o b (hP b hbi hbc) fun kv hkv =>
      hP o hoi hoc _ _ ((mem_iff_kvGet hon).mp hkv)
    refine ⟨?_, nodup_patchMap v3 b o hbn hon, fun cs hcs v hv => (key _ _ hv).2 cs hcs rfl⟩
    cases hg : kvGet "$include" (patchMap v3 b o) with
    | none => rfl
    | some v => exact absurd rfl (key _ _ hg).1

theorem good_patchNode (v3 : Bool) {d : Nat} {kd : Kind} {b o : Y} (hb : Good (d + 1) kd b) (ho : Good (d + 1) kd o) :
    Good (d + 1) kd (patchNode v3 b o) := by
  obtain ⟨bm, rfl⟩ := good_succ_map hb
  obtain ⟨om, rfl⟩ := good_succ_map ho
  exact good_patch v3 (d + 1) kd bm om hb ho

/-! ### the inclusion stage -/

theorem children_keys_nodup (kd : Kind) : (kd.children.map (·.1)).Nodup := by
  cases kd <;> decide

theorem children_not_include (kd : Kind) : ∀ cs ∈ kd.children, cs.1 ≠ "$include" := by
  cases kd <;> decide

/-- a processed child has the shape its kind asks for, if the recursion delivers good nodes on distinct-key input -/
theorem childFn_good {rec : Kind → Y → FR Y} {P : Kind → Y → Prop}
    (hrec : ∀ k' c, c.dk = true → FR.Sat (fun _ => True) (rec k' c) (P k')) (cs : String × ChildSpec) {v : Y}
    (hdk : v.dk = true) : FR.Sat (fun _ => True) (childFn rec cs v) (ChildGood P cs.2) := by
  obtain ⟨key, spec⟩ := cs
  cases spec with
  | single k' => exact hrec k' v hdk
  | each k' =>
    cases v with
    | map cm =>
      obtain ⟨hn, hall⟩ := dk_map hdk
      exact (FR.Sat.mapVals (R := fun _ _ c' => P k' c') cm fun kv hkv => hrec k' _ (hall kv hkv)).bind
        fun cm' ⟨hk, he⟩ => ⟨cm', rfl, hk ▸ hn, fun kv hkv => let ⟨_, _, h⟩ := he kv hkv; h⟩
    | _ => trivial

/-- every file of every inclusion directory holds each key at most once -/
def World.dk (W : World) : Prop := ∀ d ∈ W.dirs, ∀ f ∈ d, f.2.dk = true

theorem findInDirs_dk (p : String) : ∀ (ds : List (List (String × Y))) (i di : Nat) (c : Y),
    (∀ d ∈ ds, ∀ f ∈ d, f.2.dk = true) → findInDirs p ds i = some (di, c) → c.dk = true
  | [], _, _, _, _, h => nomatch h
  | d :: r, i, di, c, hw, h => by
    rw [findInDirs] at h
    split at h
    · cases h
      exact hw d List.mem_cons_self _ (kvGet_mem ‹_›)
    · exact findInDirs_dk p r (i + 1) di c (fun d' hd' => hw d' (List.mem_cons_of_mem _ hd')) h

theorem procInclude_good (W : World) (hW : W.dk) : ∀ (fuel : Nat) (stack : Stack) (kd : Kind) (y : Y) (d : Nat),
    y.dk = true → FR.Sat (fun _ => True) (procInclude W fuel stack kd y) (Good d kd)
  | 0, _, _, _, _, _ => trivial
  | _ + 1, _, _, _, 0, _ => FR.Sat.of_ok fun _ _ => trivial
  | f + 1, stack, kd, y, d + 1, hdk => by
    unfold procInclude
    cases y with
    | map m0 =>
      -- children first: the fold replaces each child property by what `childFn` makes of it
      have hch := FR.Sat.foldlM_modKey (E := fun _ => True) (childStep_eq _) (fun cs => ChildGood (Good d) cs.2)
        kd.children m0 (children_keys_nodup kd) fun cs _ v hv =>
          childFn_good (fun k' c => procInclude_good W hW f stack k' c d) cs (dk_get hdk hv)
      refine hch.bind fun m1 ⟨c1, _, c3⟩ => ?_
      have hn1 : (kvKeys m1).Nodup := c1 ▸ (dk_map hdk).1
      -- so the children of `m1` are good, and those of every mapping that agrees with it on them
      have hgood : ∀ m, kvGet "$include" m = none → (kvKeys m).Nodup →
          (∀ cs ∈ kd.children, kvGet cs.1 m = kvGet cs.1 m1) → Good (d + 1) kd (.map m) :=
        fun m hi hn he => ⟨hi, hn, fun cs hcs v hv => c3 cs hcs v (he cs hcs ▸ hv)⟩
      cases hinc : kvGet "$include" m1 with
      | none => exact hgood m1 hinc hn1 fun _ _ => rfl
      | some inc =>
        refine FR.Sat.bind (P := fun _ => True) (FR.Sat.of_ok fun _ _ => trivial) fun paths _ => ?_
        refine FR.Sat.bind (P := fun base => ∀ b, base = some b → Good (d + 1) kd b) ?_ fun base gbase => ?_
        · exact FR.Sat.foldlM (fun _ base => ∀ b, base = some b → Good (d + 1) kd b) paths none nofun
            fun base p _ hb => FR.Sat.inclStep trivial trivial
              (fun di c hf _ => procInclude_good W hW f _ kd c (d + 1) (findInDirs_dk p W.dirs 0 di c hW hf))
              (fun _ _ => good_patchNode kd.isV3) hb
        · have glast := hgood (kvErase "$include" m1) (by rw [kvGet_kvErase, if_pos rfl])
            (hn1.sublist (kvKeys_kvErase_sublist _ _)) fun cs hcs => by
              rw [kvGet_kvErase, if_neg (Ne.symm (children_not_include kd cs hcs))]
          cases base with
          | none => exact glast
          | some b => exact good_patchNode kd.isV3 (gbase b rfl) glast
    | _ => trivial

/-! ### from `Good` to the decidable `includeFree` -/

def Kind.rank : Kind → Nat
  | .trace | .meta2 => 4
  | .traceType | .traceType2 => 3
  | .dst | .dst2 => 2
  | _ => 1

theorem children_rank (kd : Kind) : ∀ cs ∈ kd.children, cs.2.ckind.rank < kd.rank := by
  cases kd <;> decide

theorem rank_pos (kd : Kind) : 0 < kd.rank := by cases kd <;> decide

theorem good_includeFree : ∀ (d : Nat) (kd : Kind) (y : Y), kd.rank ≤ d → Good d kd y → includeFree d kd y = true
  | 0, kd, _, hr, _ => by have := rank_pos kd; omega
  | d + 1, kd, y, hr, h => by
    cases y with
    | map m =>
      obtain ⟨hi, _, hc⟩ := h
      simp only [includeFree, kvHas, hi, Option.isSome_none, Bool.not_false, Bool.true_and, List.all_eq_true]
      intro cs hcs
      have hrk := children_rank kd cs hcs
      cases hg : kvGet cs.1 m with
      | none => rfl
      | some v =>
        have := hc cs hcs v hg
        cases hs : cs.2 with
        | single k' =>
          simp only [hs, ChildGood, ChildSpec.ckind] at this hrk ⊢
          exact good_includeFree d k' v (by omega) this
        | each k' =>
          simp only [hs, ChildGood, ChildSpec.ckind] at this hrk ⊢
          obtain ⟨cm, rfl, _, ha⟩ := this
          simp only [List.all_eq_true]
          exact fun kv hkv => good_includeFree d k' kv.2 (by omega) (ha kv hkv)
    | _ => exact False.elim h

end BVM
