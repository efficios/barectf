/-
  Proofs/Plain.lean — the operation tree without its static start bits is read off the field types (`plainRoot`), and
  serialising with the tree `_OpBuilder` builds is serialising with that one (Proofs/Oib.lean).  The hypotheses on a
  root structure under which this holds (`RootOKS`; `RootOK` for user roots); `pow2b_sound`: the executable
  power-of-two test of Model/Decode.lean.
-/
import BVM.Proofs.Oib
import BVM.Model.Decode
namespace BVM

/-- the alignment operation the builder emits for alignment `al` -/
def alOp (al : Nat) : Option Nat := if al > 1 then some al else none

theorem tryAlign_snd (inArr : Bool) (oib : Option Nat) (al : Nat) : (tryAlign inArr oib al).2 = alOp al := rfl

theorem serAlign_alOp (al : Nat) (s : SerSt) (hal : 0 < al) (h : s.at_ + al ≤ 2 ^ 32) :
    (serAlign (alOp al) s).at_ = alignNat s.at_ al := by
  unfold alOp
  by_cases h1 : al > 1
  · rw [if_pos h1]; exact alignUp_eq _ _ (by omega)
  · have : al = 1 := by omega
    subst this
    exact (alignNat_one _).symm

def plainElem : Elem → EOp
  | .sc sc => .leaf (alOp sc.align) ⟨.arg, sc, none⟩
  | .sarr n e => .loop (alOp e.align) n (plainElem e)

def plainMemberS (spec : String → Option WSrc) (m : Member) : MOp :=
  match m.ft with
  | .el (.sc sc) => .el m.name (.leaf (alOp sc.align) ⟨(spec m.name).getD .arg, sc, none⟩)
  | .el e => .el m.name (plainElem e)
  | .darr ln e => .dloop m.name (alOp e.align) ln (plainElem e)
  | .uuid => .el m.name (.leaf (alOp 8) ⟨.uuid, .str, none⟩)

abbrev plainMember (m : Member) : MOp := plainMemberS specNone m

def plainRoot (spec : String → Option WSrc) (S : Struct) : RootOp :=
  { al := alOp S.align, members := S.members.map (plainMemberS spec) }

theorem buildElem_erase : ∀ (e : Elem) (level : Nat) (oib : Option Nat), (buildElem .arg e level oib).1.erase = plainElem e
  | .sc sc, level, oib => rfl
  | .sarr n e, level, oib => by
    simp only [buildElem, EOp.erase, plainElem, tryAlign_snd]
    rw [buildElem_erase e]

theorem buildMember_erase (spec : String → Option WSrc) (m : Member) (oib : Option Nat) :
    (buildMember spec m oib).1.erase = plainMemberS spec m := by
  obtain ⟨name, ft⟩ := m
  cases ft with
  | el e =>
    cases e with
    | sc sc => rfl
    | sarr n e => simp only [buildMember, MOp.erase, plainMemberS]; rw [buildElem_erase]
  | darr ln e => simp only [buildMember, MOp.erase, plainMemberS, tryAlign_snd]; rw [buildElem_erase]
  | uuid => rfl

theorem buildMembers_erase (spec : String → Option WSrc) : ∀ (ms : List Member) (oib : Option Nat),
    (buildMembers spec ms oib).1.map MOp.erase = ms.map (plainMemberS spec)
  | [], _ => rfl
  | m :: ms, oib => by simp only [buildMembers, List.map_cons, buildMember_erase, buildMembers_erase spec ms]

theorem buildRoot_erase (spec : String → Option WSrc) (S : Struct) : (buildRoot spec S).erase = plainRoot spec S := by
  simp only [buildRoot, RootOp.erase, tryAlign_snd, buildMembers_erase, plainRoot]

/-- a specialised template applies to integer members only, and the UUID template to the UUID member only -/
def SpecWF (spec : String → Option WSrc) (m : Member) : Prop :=
  match m.ft with
  | .el (.sc sc) => ∀ src, spec m.name = some src → src = .arg ∨ (src ≠ .uuid ∧ sc ≠ .str)
  | _ => True

structure RootOKS (spec : String → Option WSrc) (S : Struct) : Prop where
  pow2 : ∃ j, S.align = 2 ^ j
  members : ∀ m ∈ S.members, m.ft.AlOK ∧ SpecWF spec m ∧ specOK spec m

structure RootOK (S : Struct) : Prop where
  pow2 : ∃ j, S.align = 2 ^ j
  members : ∀ m ∈ S.members, m.ft ≠ .uuid ∧ m.ft.AlOK

theorem RootOKS.of_none {S : Struct} (hp : ∃ j, S.align = 2 ^ j) (h : ∀ m ∈ S.members, m.ft.AlOK) : RootOKS specNone S :=
  ⟨hp, fun m hm => ⟨h m hm, by unfold SpecWF; split <;> simp [specNone], by unfold specOK; split <;> simp [specNone]⟩⟩

theorem RootOK.toS {S : Struct} (h : RootOK S) : RootOKS specNone S :=
  RootOKS.of_none h.pow2 fun m hm => (h.members m hm).2

theorem serRoot_build (env : SerEnv) (spec : String → Option WSrc) (pfx : String) (args : Args) (S : Struct)
    (hS : RootOKS spec S) (s : SerSt) :
    serRoot env pfx (buildRoot spec S) args s = serRoot env pfx (plainRoot spec S) args s := by
  rw [buildRoot_transparent env pfx args spec S hS.pow2 (fun m hm => ⟨(hS.members m hm).1, (hS.members m hm).2.2⟩) s,
    buildRoot_erase]

theorem pow2b_sound (a : Nat) (h : pow2b a = true) : ∃ k, a = 2 ^ k := by
  simp only [pow2b, Bool.and_eq_true, decide_eq_true_eq, beq_iff_eq] at h
  exact (Nat.and_sub_one_eq_zero_iff_isPowerOfTwo (Nat.ne_of_gt h.1)).mp h.2

theorem RootOKS.align_pos {spec : String → Option WSrc} {S : Struct} (h : RootOKS spec S) : 0 < S.align := Nat.pos_of_isPowerOfTwo h.pow2

end BVM
