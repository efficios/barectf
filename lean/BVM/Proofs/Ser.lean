/-
  Proofs/Ser.lean — lemmas about Model/Ser.lean.  What `pop`, `serAlign` and `store` do to a state is said once, as
  an equation; how a write reads its source is said once (`serWrite_arg_bits`, `serWrite_env`); what a pass keeps is
  said once, as an induction over operation trees (`serElem_keeps` … `serRoot_keeps`: what alignment and the writes of
  the tree keep, the tree keeps).  `Kept P` is the usual case — a property that survives moving `at`, replacing the
  leaves and making a store — with the rules `Kept.serElem` … `Kept.serRoot`.  Stickiness of `oob` is the first
  instance, `StoresGood` (every logged store lies inside the buffer) the second; the saved offsets (Proofs/Saved.lean)
  are the third.
-/
import BVM.Proofs.Bits
import BVM.Model.Rt
namespace BVM

theorem iterN_keeps {σ : Type} {P : σ → Prop} {f : σ → σ} (hf : ∀ s, P s → P (f s)) :
    ∀ (n : Nat) (s : σ), P s → P (iterN f n s)
  | 0, _, h => h
  | n + 1, s, h => iterN_keeps hf n (f s) (hf s h)

theorem iterN_rel {σ τ : Type} {R : σ → τ → Prop} {f : σ → σ} {g : τ → τ} (h : ∀ a b, R a b → R (f a) (g b)) :
    ∀ (n : Nat) (a : σ) (b : τ), R a b → R (iterN f n a) (iterN g n b)
  | 0, _, _, r => r
  | n + 1, a, b, r => iterN_rel h n (f a) (g b) (h a b r)

theorem pop_eq (s : SerSt) : s.pop = (s.leaves.headD (.num 0), { s with leaves := s.leaves.tail }) := by
  obtain ⟨_, _, _, _, _, l⟩ := s; cases l <;> rfl

theorem serAlign_eq (al : Option Nat) (s : SerSt) :
    serAlign al s = { s with at_ := match al with | some a => alignUp s.at_ a | none => s.at_ } := by
  cases al <;> rfl

theorem store_eq (s : SerSt) (b n : Nat) (nb : Buf) :
    s.store b n nb = { s with buf := if b + n ≤ s.buf.length then nb else s.buf, stores := (b, n) :: s.stores,
                              oob := s.oob || !decide (b + n ≤ s.buf.length) } := by
  unfold SerSt.store; split <;> simp [*]

theorem pop_fst (s : SerSt) : s.pop.1 = s.leaves.headD (.num 0) := by rw [pop_eq]
theorem pop_leaves (s : SerSt) : s.pop.2.leaves = s.leaves.tail := by rw [pop_eq]
theorem pop_at (s : SerSt) : s.pop.2.at_ = s.at_ := by rw [pop_eq]
theorem pop_buf (s : SerSt) : s.pop.2.buf = s.buf := by rw [pop_eq]
theorem pop_oob (s : SerSt) : s.pop.2.oob = s.oob := by rw [pop_eq]
theorem pop_saved (s : SerSt) : s.pop.2.saved = s.saved := by rw [pop_eq]

theorem serAlign_at (al : Option Nat) (s : SerSt) :
    (serAlign al s).at_ = match al with | some a => alignUp s.at_ a | none => s.at_ := by
  rw [serAlign_eq]
theorem serAlign_buf (al : Option Nat) (s : SerSt) : (serAlign al s).buf = s.buf := by rw [serAlign_eq]
theorem serAlign_leaves (al : Option Nat) (s : SerSt) : (serAlign al s).leaves = s.leaves := by rw [serAlign_eq]
theorem serAlign_oob (al : Option Nat) (s : SerSt) : (serAlign al s).oob = s.oob := by rw [serAlign_eq]
theorem serAlign_saved (al : Option Nat) (s : SerSt) : (serAlign al s).saved = s.saved := by rw [serAlign_eq]

theorem store_at (s : SerSt) (b n : Nat) (nb : Buf) : (s.store b n nb).at_ = s.at_ := by rw [store_eq]
theorem store_leaves (s : SerSt) (b n : Nat) (nb : Buf) : (s.store b n nb).leaves = s.leaves := by rw [store_eq]
theorem store_saved (s : SerSt) (b n : Nat) (nb : Buf) : (s.store b n nb).saved = s.saved := by rw [store_eq]
theorem store_log (s : SerSt) (b n : Nat) (nb : Buf) : (s.store b n nb).stores = (b, n) :: s.stores := by rw [store_eq]

theorem store_oob_false (s : SerSt) (b n : Nat) (nb : Buf) :
    (s.store b n nb).oob = false ↔ s.oob = false ∧ b + n ≤ s.buf.length := by
  rw [store_eq]; simp

theorem store_buf_of_le (s : SerSt) (b n : Nat) (nb : Buf) (h : b + n ≤ s.buf.length) : (s.store b n nb).buf = nb := by
  rw [store_eq]; exact if_pos h

theorem store_inb (s : SerSt) (b n : Nat) (nb : Buf) (h : (s.store b n nb).oob = false) :
    b + n ≤ s.buf.length ∧ (s.store b n nb).buf = nb :=
  have hin := ((store_oob_false s b n nb).mp h).2
  ⟨hin, store_buf_of_le s b n nb hin⟩

theorem store_oob (s : SerSt) (b n : Nat) (nb : Buf) (h : ¬ b + n ≤ s.buf.length) :
    (s.store b n nb).oob = true ∧ (s.store b n nb).buf = s.buf := by
  rw [store_eq]; simp [h]

/-! ### what the primitives put in the buffer: its length, and the bytes they leave alone -/

theorem memcpyBytes_length : ∀ (l : List Nat) (buf : Buf) (b : Nat), (memcpyBytes l buf b).length = buf.length
  | [], _, _ => rfl
  | x :: xs, buf, b => by simp only [memcpyBytes]; rw [memcpyBytes_length xs]; simp

theorem memcpyBytes_frame : ∀ (l : List Nat) (buf : Buf) (b k : Nat), (k < b ∨ b + l.length ≤ k) →
    getB (memcpyBytes l buf b) k = getB buf k := by
  intro l
  induction l with
  | nil => intro buf b k _; rfl
  | cons x xs ih =>
    intro buf b k hk
    simp only [memcpyBytes]
    rw [ih _ _ _ (by simp at hk; omega), getB_setB_ne (by simp at hk; omega)]

theorem store_frame (s : SerSt) (b n : Nat) (nb : Buf) (h : ∀ k, (k < b ∨ b + n ≤ k) → getB nb k = getB s.buf k)
    (k : Nat) (hk : k < b ∨ b + n ≤ k) : getB (s.store b n nb).buf k = getB s.buf k := by
  unfold SerSt.store
  split
  · exact h k hk
  · rfl

/-! ### the two writes: one store, then the advance -/

/-- `writeBits` is one store, then the advance.  The stored buffer has the old length and differs from the old one
    inside the stored range only; with the start bit taken from `at`, that range stays within the bytes of the field. -/
theorem writeBits_store (env : SerEnv) (sc : Scalar) (o : Option Nat) (v : Int) (s : SerSt) :
    ∃ b n nb, nb.length = s.buf.length ∧ (∀ k, k < b ∨ b + n ≤ k → getB nb k = getB s.buf k) ∧
      (o = none → 8 * (b + n) ≤ s.at_ + sc.size + 7) ∧
      writeBits env sc o v s = { s.store b n nb with at_ := u32 (s.at_ + sc.size) } := by
  unfold writeBits
  simp only
  split
  · exact ⟨_, _, _, memcpyLE_length .., fun k hk => memcpyLE_frame _ _ _ _ _ hk, fun _ => by omega, rfl⟩
  · exact ⟨_, _, _, (bfWrite_put ..).length, fun k hk => bfWrite_frame _ _ _ _ _ _ _ k (by omega),
      fun ho => by subst ho; dsimp only; omega, rfl⟩

/-- the store log is truthful (C02, C08): `writeBits` logs exactly one store, and modifies no byte outside it -/
theorem writeBits_frame (env : SerEnv) (sc : Scalar) (oib : Option Nat) (v : Int) (s : SerSt) :
    ∃ b n, (writeBits env sc oib v s).stores = (b, n) :: s.stores ∧
      ∀ k, (k < b ∨ b + n ≤ k) → getB (writeBits env sc oib v s).buf k = getB s.buf k := by
  obtain ⟨b, n, nb, _, hf, _, e⟩ := writeBits_store env sc oib v s
  rw [e]
  exact ⟨b, n, store_log s b n nb, store_frame s b n nb hf⟩

/-- `_write_c_str` logs exactly one store of `strlen + 1` bytes, and modifies no byte outside it -/
theorem writeStr_frame (bytes : List Nat) (s : SerSt) :
    (writeStr bytes s).stores = (s.at_ / 8, bytes.length + 1) :: s.stores ∧
    ∀ k, (k < s.at_ / 8 ∨ s.at_ / 8 + (bytes.length + 1) ≤ k) → getB (writeStr bytes s).buf k = getB s.buf k :=
  ⟨store_log .., store_frame s _ _ _ fun k hk => memcpyBytes_frame _ _ _ _ (by simpa using hk)⟩

theorem writeBits_at (env : SerEnv) (sc : Scalar) (o : Option Nat) (v : Int) (s : SerSt) :
    (writeBits env sc o v s).at_ = u32 (s.at_ + sc.size) := rfl

theorem writeBits_leaves (env : SerEnv) (sc : Scalar) (o : Option Nat) (v : Int) (s : SerSt) :
    (writeBits env sc o v s).leaves = s.leaves := by
  obtain ⟨b, n, nb, _, _, _, h⟩ := writeBits_store env sc o v s; rw [h]; exact store_leaves s b n nb

theorem u32_of_lt {x : Nat} (h : x < 2 ^ 32) : u32 x = x := Nat.mod_eq_of_lt h

theorem writeStr_at (bytes : List Nat) (s : SerSt) (h : s.at_ + 8 * (bytes.length + 1) < 2 ^ 32) :
    (writeStr bytes s).at_ = s.at_ + 8 * (bytes.length + 1) := by
  show u32 (s.at_ + u32 (8 * u32 (bytes.length + 1))) = _
  rw [u32_of_lt (x := bytes.length + 1) (by omega), u32_of_lt (x := 8 * _) (by omega), u32_of_lt h]

/-! ### how a write reads its source -/

theorem serWrite_arg_str (env : SerEnv) (o : Option Nat) (s : SerSt) :
    serWrite env ⟨.arg, .str, o⟩ s = writeStr s.pop.1.bytes s.pop.2 := rfl

theorem serWrite_arg_bits (env : SerEnv) {sc : Scalar} (o : Option Nat) (s : SerSt) (h : sc ≠ .str) :
    serWrite env ⟨.arg, sc, o⟩ s = writeBits env sc o s.pop.1.toInt s.pop.2 := by
  cases sc <;> first | exact absurd rfl h | rfl

/-- the templates that write a value of the context: a bit-array write without argument -/
theorem serWrite_env (env : SerEnv) {src : WSrc} (sc : Scalar) (o : Option Nat) (s : SerSt) (ha : src ≠ .arg)
    (hu : src ≠ .uuid) (hs : ∀ n, src ≠ .skipSave n) :
    serWrite env ⟨src, sc, o⟩ s = writeBits env sc o (envVal env src) s := by
  cases src <;> first | contradiction | exact absurd rfl (hs _) | rfl

/-- every template but the UUID's advances by the size of the scalar -/
theorem serWrite_at_of_ne (env : SerEnv) {src : WSrc} (sc : Scalar) (o : Option Nat) (s : SerSt) (ha : src ≠ .arg)
    (hu : src ≠ .uuid) : (serWrite env ⟨src, sc, o⟩ s).at_ = u32 (s.at_ + sc.size) := by
  cases src <;> first | contradiction | rfl

/-! ### what a pass keeps -/

/-- a property of serialiser states that survives every step of a pass which saves no offset: moving `at`,
    replacing the leaves, and a store of a buffer of the old length -/
structure Kept (P : SerSt → Prop) : Prop where
  at_ : ∀ (a : Nat) (s : SerSt), P s → P { s with at_ := a }
  leaves : ∀ (l : List Leaf) (s : SerSt), P s → P { s with leaves := l }
  store : ∀ (s : SerSt) (b n : Nat) (nb : Buf), nb.length = s.buf.length → P s → P (s.store b n nb)

namespace Kept
variable {P : SerSt → Prop} (K : Kept P)
include K

theorem pop {s : SerSt} (h : P s) : P s.pop.2 := by rw [pop_eq]; exact K.leaves _ s h

theorem serAlign (al : Option Nat) {s : SerSt} (h : P s) : P (serAlign al s) := by
  rw [serAlign_eq]; exact K.at_ _ s h

theorem writeBits (env : SerEnv) (sc : Scalar) (o : Option Nat) (v : Int) {s : SerSt} (h : P s) :
    P (writeBits env sc o v s) := by
  obtain ⟨b, n, nb, hl, _, _, e⟩ := writeBits_store env sc o v s
  rw [e]; exact K.at_ _ _ (K.store s b n nb hl h)

theorem writeStr (bytes : List Nat) {s : SerSt} (h : P s) : P (writeStr bytes s) :=
  K.at_ _ _ (K.store s _ _ _ (memcpyBytes_length ..) h)

/-- every write but a skip-and-save one; those only have to be told what saving does to `P` -/
theorem serWrite (env : SerEnv) (w : Write) {s : SerSt}
    (hsv : ∀ n, w.src = .skipSave n → P { s with saved := (n, s.at_) :: s.saved }) (h : P s) : P (serWrite env w s) := by
  obtain ⟨src, sc, o⟩ := w
  have hb : ∀ v, P (BVM.writeBits env sc o v s) := fun v => K.writeBits env sc o v h
  cases src with
  | arg =>
    cases sc with
    | str => exact K.writeStr _ (K.pop h)
    | int sg sz al => exact K.writeBits env _ o _ (K.pop h)
    | real sz al => exact K.writeBits env _ o _ (K.pop h)
  | skipSave name => exact K.at_ _ _ (hsv name rfl)
  | uuid => exact K.at_ _ _ (K.store _ _ _ _ (memcpyBytes_length ..) (K.at_ _ s h))
  | _ => exact hb _

end Kept

/-- every write of the tree satisfies `Q` -/
def EOp.All (Q : Write → Prop) : EOp → Prop
  | .leaf _ w => Q w
  | .loop _ _ b => b.All Q

def MOp.All (Q : Write → Prop) : MOp → Prop
  | .el _ e => e.All Q
  | .dloop _ _ _ b => b.All Q

theorem EOp.All.mono {Q Q' : Write → Prop} (h : ∀ w, Q w → Q' w) : ∀ {op : EOp}, op.All Q → op.All Q'
  | .leaf _ w, hq => h w hq
  | .loop _ _ b, hq => EOp.All.mono h (op := b) hq

theorem MOp.All.mono {Q Q' : Write → Prop} (h : ∀ w, Q w → Q' w) {m : MOp} (hq : m.All Q) : m.All Q' := by
  cases m <;> exact EOp.All.mono h hq

theorem EOp.all_true : ∀ op : EOp, op.All fun _ => True
  | .leaf _ _ => trivial
  | .loop _ _ b => EOp.all_true b

theorem MOp.all_true (m : MOp) : m.All fun _ => True := by cases m <;> exact EOp.all_true _

section keeps
variable {P : SerSt → Prop} {Q : Write → Prop} (env : SerEnv)
  (hal : ∀ al s, P s → P (serAlign al s)) (hw : ∀ w s, Q w → P s → P (serWrite env w s))
include hal hw

/-- **the induction over an operation tree**, done once: what alignment and the writes of the tree keep, the tree keeps -/
theorem serElem_keeps : ∀ (op : EOp), op.All Q → ∀ s, P s → P (serElem env op s)
  | .leaf al w, hq, s, h => hw w _ hq (hal al s h)
  | .loop al n body, hq, s, h => iterN_keeps (serElem_keeps body hq) n _ (hal al s h)

theorem serMember_keeps (hl : ∀ l s, P s → P { s with leaves := l }) (pfx : String) (args : Args) (m : MOp)
    (hq : m.All Q) (s : SerSt) (h : P s) : P (serMember env pfx args m s) := by
  cases m with
  | el name e => exact serElem_keeps env hal hw e hq _ (hl _ s h)
  | dloop name al ln body => exact iterN_keeps (serElem_keeps env hal hw body hq) _ _ (hal al _ (hl _ s h))

theorem serRoot_keeps (hl : ∀ l s, P s → P { s with leaves := l }) (pfx : String) (r : RootOp) (args : Args)
    (hq : ∀ m ∈ r.members, m.All Q) (s : SerSt) (h : P s) : P (serRoot env pfx r args s) :=
  List.foldlRecOn r.members _ (hal r.al s h) fun a ha m hm => serMember_keeps env hal hw hl pfx args m (hq m hm) a ha

end keeps

section kept
variable {P : SerSt → Prop} (K : Kept P) {Q : Write → Prop} (env : SerEnv)
  (hsv : ∀ w n s, Q w → w.src = .skipSave n → P s → P { s with saved := (n, s.at_) :: s.saved })
include K hsv

theorem Kept.write (w : Write) (s : SerSt) (hq : Q w) (h : P s) : P (BVM.serWrite env w s) :=
  K.serWrite env w (fun n e => hsv w n s hq e h) h

/-- the tree rules for a kept property: only the skip-and-save writes among those the tree can hold (`Q`) have to be
    told what saving does to `P` -/
theorem Kept.serElem (op : EOp) (hq : op.All Q) (s : SerSt) (h : P s) : P (serElem env op s) :=
  serElem_keeps env (fun al _ => K.serAlign al) (K.write env hsv) op hq s h

theorem Kept.serMember (pfx : String) (args : Args) (m : MOp) (hq : m.All Q) (s : SerSt) (h : P s) :
    P (serMember env pfx args m s) :=
  serMember_keeps env (fun al _ => K.serAlign al) (K.write env hsv) K.leaves pfx args m hq s h

theorem Kept.serRoot_all (pfx : String) (r : RootOp) (args : Args) (hq : ∀ m ∈ r.members, m.All Q) (s : SerSt)
    (h : P s) : P (serRoot env pfx r args s) :=
  serRoot_keeps env (fun al _ => K.serAlign al) (K.write env hsv) K.leaves pfx r args hq s h

end kept

theorem Kept.serRoot {P : SerSt → Prop} (K : Kept P) (hsv : ∀ n a s, P s → P { s with saved := (n, a) :: s.saved })
    (env : SerEnv) (pfx : String) (r : RootOp) (args : Args) (s : SerSt) (h : P s) : P (serRoot env pfx r args s) :=
  K.serRoot_all (Q := fun _ => True) env (fun _ n s _ _ => hsv n _ s) pfx r args (fun m _ => m.all_true) s h

/-- what the pass over the header root and over any user root keeps, the pass over a whole event record keeps -/
theorem serRecord_keeps {P : SerSt → Prop} (env : SerEnv) (d : DST) (e : ERT) (args : Args)
    (hh : ∀ s, P s → P (serRoot env "h" d.erhOp [] s))
    (hu : ∀ pfx (S : Struct) s, P s → P (serRoot env pfx (buildRoot specNone S) args s)) (s : SerSt) (hs : P s) :
    P (serRecord env d e args s) := by
  have opt : ∀ (S : Option Struct) (pfx : String) (t : SerSt), P t →
      P (match S.map (buildRoot specNone) with | some r => serRoot env pfx r args t | none => t) := by
    intro S pfx t ht; cases S with
    | none => exact ht
    | some S' => exact hu pfx S' t ht
  exact opt _ "p" _ (opt _ "sc" _ (opt _ "cc" _ (hh s hs)))

/-! ### instances -/

/-- out-of-bounds is sticky -/
theorem oob_kept : Kept fun s => s.oob = true :=
  ⟨fun _ _ h => h, fun _ _ h => h, fun s b n nb _ h => by rw [store_eq]; simp [h]⟩

theorem serElem_oob_mono (env : SerEnv) (op : EOp) (s : SerSt) (h : s.oob = true) : (serElem env op s).oob = true :=
  oob_kept.serElem (Q := fun _ => True) env (fun _ _ _ _ _ h => h) op op.all_true s h

theorem serRoot_oob_mono (env : SerEnv) (pfx : String) (r : RootOp) (args : Args) (s : SerSt) (h : s.oob = true) :
    (serRoot env pfx r args s).oob = true :=
  oob_kept.serRoot (fun _ _ _ h => h) env pfx r args s h

theorem foldl_oob_mono (env : SerEnv) (pfx : String) (args : Args) (ms : List MOp) (s : SerSt) (h : s.oob = true) :
    (ms.foldl (fun a m => serMember env pfx args m a) s).oob = true :=
  serRoot_oob_mono env pfx ⟨none, ms⟩ args s h

/-- a step that ended quietly started quietly -/
theorem oob_false_of (f : SerSt → SerSt) (hf : ∀ s, s.oob = true → (f s).oob = true) (s : SerSt)
    (h : (f s).oob = false) : s.oob = false := by
  cases ho : s.oob with
  | false => rfl
  | true => rw [hf s ho] at h; exact absurd h (by simp)

/-! `StoresGood`: the model checks each store against the buffer length when it is made (`SerSt.store`), `oob` is
    sticky and the buffer keeps its length.  This turns "the run did not halt" (Proofs/RtPos.lean) into the literal
    statement of C02 about the logged stores. -/

def StoresGood (L : Nat) (st : SerSt) : Prop :=
  st.oob = false → st.buf.length = L ∧ ∀ x ∈ st.stores, x.1 + x.2 ≤ L

theorem store_good (L : Nat) (s : SerSt) (b n : Nat) (nb : Buf) (hg : StoresGood L s)
    (hl : b + n ≤ s.buf.length → nb.length = s.buf.length) : StoresGood L (s.store b n nb) := by
  intro h0
  obtain ⟨ho, hc⟩ := (store_oob_false s b n nb).mp h0
  obtain ⟨g1, g2⟩ := hg ho
  rw [store_buf_of_le s b n nb hc, store_log]
  refine ⟨(hl hc).trans g1, fun x hx => ?_⟩
  rcases List.mem_cons.mp hx with rfl | hx
  · exact g1 ▸ hc
  · exact g2 x hx

theorem storesGood_kept (L : Nat) : Kept (StoresGood L) :=
  ⟨fun _ _ h => h, fun _ _ h => h, fun s b n nb hl hg => store_good L s b n nb hg fun _ => hl⟩

theorem writeBits_good (L : Nat) (env : SerEnv) (sc : Scalar) (o : Option Nat) (v : Int) (s : SerSt) (hg : StoresGood L s) :
    StoresGood L (writeBits env sc o v s) := (storesGood_kept L).writeBits env sc o v hg

theorem serRoot_good (L : Nat) (env : SerEnv) (pfx : String) (r : RootOp) (args : Args) (s : SerSt) (hg : StoresGood L s) :
    StoresGood L (serRoot env pfx r args s) := (storesGood_kept L).serRoot (fun _ _ _ h => h) env pfx r args s hg

theorem serRecord_good (L : Nat) (env : SerEnv) (d : DST) (e : ERT) (args : Args) (s : SerSt) (hg : StoresGood L s) :
    StoresGood L (serRecord env d e args s) :=
  serRecord_keeps env d e args (fun s => serRoot_good L env _ _ _ s) (fun pfx _ s => serRoot_good L env pfx _ args s) s hg

/-- a pass started with an empty store log on a buffer of `L` bytes: if it ends without `oob`, every store it logged is
    inside the buffer -/
theorem pass_stores_in (L : Nat) (f : SerSt → SerSt) (hf : ∀ s, StoresGood L s → StoresGood L (f s)) (buf : Buf) (at_ : Nat)
    (saved : List (String × Nat)) (hlen : buf.length = L)
    (h : (f { buf := buf, at_ := at_, saved := saved, stores := [], oob := false, leaves := [] }).oob = false) :
    ∀ x ∈ (f { buf := buf, at_ := at_, saved := saved, stores := [], oob := false, leaves := [] }).stores, x.1 + x.2 ≤ L :=
  (hf _ (fun _ => ⟨hlen, by intro x hx; simp at hx⟩) h).2

end BVM
