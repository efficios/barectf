/-
  Proofs/Oib.lean — the static "offset in byte" that `_OpBuilder` (cgen.py) computes at generation time and
  hands to the bit-field macros as their start bit is, at every write of every operation tree it can build,
  equal to `ctx->at % 8` at run time.  Stated as transparency: serialising with the built tree equals
  serialising with the same tree in which every write computes its start bit dynamically (`oib = none`).
-/
import BVM.Proofs.Ser
import BVM.Proofs.Align
namespace BVM

def Write.erase (w : Write) : Write := { w with oib := none }

def EOp.erase : EOp → EOp
  | .leaf al w => .leaf al w.erase
  | .loop al n b => .loop al n b.erase

def MOp.erase : MOp → MOp
  | .el n e => .el n e.erase
  | .dloop n al ln b => .dloop n al ln b.erase

def RootOp.erase (r : RootOp) : RootOp := { r with members := r.members.map MOp.erase }

def OibOK (o : Option Nat) (a : Nat) : Prop := ∀ k, o = some k → a % 8 = k

theorem OibOK_none (a : Nat) : OibOK none a := by intro k h; cases h

/-- the builder's static update of the offset agrees with the run-time `_ALIGN` -/
theorem align_agrees (a k al : Nat) (hp : ∃ j, al = 2 ^ j) (hk : a % 8 = k) :
    (if al > 1 then alignUp a al else a) % 8 = pyAlign k al % 8 := by
  obtain ⟨j, rfl⟩ := hp
  have := Nat.two_pow_pos j
  rcases pow2_cases j with h | h | h | h
  · rw [h, if_neg (by decide)]; simp only [pyAlign]; omega
  · rw [h, if_pos (by decide)]; simp only [alignUp, pyAlign]; omega
  · rw [h, if_pos (by decide)]; simp only [alignUp, pyAlign]; omega
  · rw [if_pos (by omega), alignUp_mod8 _ _ h, pyAlign_mod8 _ _ h]

theorem serAlign_if (al : Nat) (s : SerSt) :
    (serAlign (if al > 1 then some al else none) s).at_ = if al > 1 then alignUp s.at_ al else s.at_ := by
  by_cases h : al > 1 <;> simp [h, serAlign]

/-- `try_create_align_op` keeps the tracked offset truthful: outside an array if it was, inside an array
    whatever it was -/
theorem tryAlign_ok (inArr : Bool) (oib : Option Nat) (al : Nat) (s : SerSt) (hp : ∃ j, al = 2 ^ j)
    (h : inArr = false → OibOK oib s.at_) :
    OibOK (tryAlign inArr oib al).1 (serAlign (tryAlign inArr oib al).2 s).at_ := by
  intro k hk
  simp only [tryAlign] at hk ⊢
  rw [serAlign_if]
  have hpos := Nat.pos_of_isPowerOfTwo hp
  by_cases hc : oib.isNone ∧ al % 8 = 0
  · rw [if_pos hc] at hk
    cases hk
    have h1 : al > 1 := by omega
    rw [if_pos h1]
    exact alignUp_mod8 _ _ hc.2
  · rw [if_neg hc] at hk
    cases inArr with
    | true => simp at hk
    | false =>
      simp only [Bool.false_eq_true, if_false] at hk
      cases oib with
      | none => simp at hk
      | some k0 =>
        simp only [Option.some.injEq] at hk
        rw [← hk]
        exact align_agrees s.at_ k0 al hp (h rfl k0 rfl)

theorem u32_mod8 (x : Nat) : u32 x % 8 = x % 8 := Nat.mod_mod_of_dvd x ⟨536870912, rfl⟩

/-- the offset after a write that moved `at` by the size of the scalar, modulo 8 -/
theorem writeOib_ok (oib : Option Nat) (sc : Scalar) (a a' : Nat) (h : OibOK oib a) (ha : a' % 8 = (a + sc.size) % 8) :
    OibOK (writeOib oib sc) a' := by
  intro k hk
  cases oib with
  | none => cases sc <;> cases hk
  | some k0 =>
    have := h k0 rfl
    cases sc <;> simp only [writeOib, Option.some.injEq, Scalar.size] at hk ha <;> omega

theorem writeBits_erase (env : SerEnv) (sc : Scalar) (oib : Option Nat) (v : Int) (s : SerSt) (h : OibOK oib s.at_) :
    writeBits env sc oib v s = writeBits env sc none v s := by
  cases oib with
  | none => rfl
  | some k =>
    have := h k rfl
    simp only [writeBits, this]

theorem serWrite_erase (env : SerEnv) (w : Write) (s : SerSt) (h : OibOK w.oib s.at_) :
    serWrite env w s = serWrite env w.erase s := by
  obtain ⟨src, sc, oib⟩ := w
  by_cases ha : src = .arg
  · subst ha
    by_cases hs : sc = .str
    · subst hs; rfl
    · rw [Write.erase, serWrite_arg_bits env oib s hs, serWrite_arg_bits env none s hs]
      exact writeBits_erase env sc oib _ _ (by rw [pop_at]; exact h)
  · by_cases hw : src = .uuid ∨ ∃ n, src = .skipSave n
    · obtain rfl | ⟨n, rfl⟩ := hw <;> rfl
    · rw [Write.erase, serWrite_env env sc oib s ha (fun e => hw (.inl e)) (fun n e => hw (.inr ⟨n, e⟩)),
        serWrite_env env sc none s ha (fun e => hw (.inl e)) (fun n e => hw (.inr ⟨n, e⟩))]
      exact writeBits_erase env sc oib _ s h

/-- every write but the UUID's moves `at` by the size of its scalar, modulo 8 -/
theorem serWrite_at_mod8 (env : SerEnv) (src : WSrc) (sc : Scalar) (o : Option Nat) (s : SerSt) (hsrc : src ≠ .uuid) :
    (serWrite env ⟨src, sc, o⟩ s).at_ % 8 = (s.at_ + sc.size) % 8 := by
  by_cases ha : src = .arg
  · subst ha
    by_cases hs : sc = .str
    · subst hs
      show u32 (s.pop.2.at_ + u32 (8 * u32 (s.pop.1.bytes.length + 1))) % 8 = _
      rw [pop_at]; simp only [u32, Scalar.size]; omega
    · rw [serWrite_arg_bits env o s hs, writeBits_at, u32_mod8, pop_at]
  · rw [serWrite_at_of_ne env sc o s ha hsrc, u32_mod8]

theorem tryAlign_fst_inArray (oib : Option Nat) (al : Nat) (h : oib.isSome ∨ al % 8 ≠ 0) :
    (tryAlign true oib al).1 = none := by
  simp only [tryAlign]
  have hc : ¬ (oib.isNone ∧ al % 8 = 0) := by
    intro ⟨h1, h2⟩
    rcases h with h | h
    · cases oib <;> simp at h h1
    · exact h h2
  rw [if_neg hc]; simp

theorem tryAlign_fst_reset (inArr : Bool) (al : Nat) :
    ((tryAlign inArr none al).1).isSome ∨ al % 8 ≠ 0 := by
  by_cases h : al % 8 = 0
  · left; simp [tryAlign, h]
  · right; exact h

/-- inside an array (level > 0) no write carries a static offset, and none comes out: there is nothing to erase.
    The precondition is what the array's own `tryAlign _ none e.align` leaves (`tryAlign_fst_reset`); without it, an
    unknown offset and an alignment multiple of 8, `tryAlign` does hand out `some 0` inside an array. -/
theorem buildElem_inArray : ∀ (e : Elem) (src : WSrc) (level : Nat) (oib : Option Nat),
    level > 0 → (oib.isSome ∨ e.align % 8 ≠ 0) →
    (buildElem src e level oib).2 = none ∧ (buildElem src e level oib).1.erase = (buildElem src e level oib).1
  | .sc sc, src, level, oib, hl, hpre => by
    have hd : decide (level > 0) = true := by simp [hl]
    simp only [buildElem, hd, tryAlign_fst_inArray oib sc.align hpre]
    exact ⟨by cases sc <;> rfl, rfl⟩
  | .sarr n e, src, level, oib, hl, _ => by
    have ih := buildElem_inArray e .arg (level + 1) (tryAlign (decide (level > 0)) none e.align).1 (by omega)
      (tryAlign_fst_reset _ e.align)
    exact ⟨ih.1, congrArg (EOp.loop _ n) ih.2⟩

/-- at level 0 a truthful incoming offset gives truthful writes and a truthful outgoing offset -/
theorem buildElem_level0 (env : SerEnv) (e : Elem) (src : WSrc) (oib : Option Nat) (s : SerSt)
    (hp : ∃ j, e.align = 2 ^ j) (h : OibOK oib s.at_) (hsrc : src ≠ .uuid) :
    serElem env (buildElem src e 0 oib).1 s = serElem env (buildElem src e 0 oib).1.erase s ∧
    OibOK (buildElem src e 0 oib).2 (serElem env (buildElem src e 0 oib).1 s).at_ := by
  cases e with
  | sc sc =>
    have hok := tryAlign_ok false oib sc.align s hp (fun _ => h)
    exact ⟨serWrite_erase env _ _ hok, writeOib_ok _ sc _ _ hok (serWrite_at_mod8 env src sc _ _ hsrc)⟩
  | sarr n e =>
    have ih := buildElem_inArray e .arg 1 (tryAlign (decide (0 > 0)) none e.align).1 (by omega) (tryAlign_fst_reset _ e.align)
    refine ⟨?_, by show OibOK (buildElem .arg e 1 _).2 _; rw [ih.1]; exact OibOK_none _⟩
    show _ = serElem env (.loop _ n (buildElem .arg e 1 _).1.erase) s
    rw [ih.2]; rfl

def FT.AlOK : FT → Prop
  | .el e => ∃ j, e.align = 2 ^ j
  | .darr _ e => ∃ j, e.align = 2 ^ j
  | .uuid => True

theorem FT.AlOK.pos {m : Member} (h : m.ft.AlOK) : 0 < m.ft.align := by
  obtain ⟨n, ft⟩ := m
  cases ft with
  | el e => exact Nat.pos_of_isPowerOfTwo h
  | darr ln e => exact Nat.pos_of_isPowerOfTwo h
  | uuid => show 0 < 8; decide

/-- the UUID template is selected by `FT.uuid` only (config.py builds the packet header that way) -/
def specOK (spec : String → Option WSrc) (m : Member) : Prop :=
  match m.ft with
  | .el (.sc _) => spec m.name ≠ some .uuid
  | _ => True

theorem serMember_leaves_at (s : SerSt) (l : List Leaf) : ({ s with leaves := l } : SerSt).at_ = s.at_ := rfl

theorem buildMember_ok (env : SerEnv) (pfx : String) (args : Args) (spec : String → Option WSrc) (m : Member)
    (oib : Option Nat) (s : SerSt) (hal : m.ft.AlOK) (hsp : specOK spec m) (h : OibOK oib s.at_) :
    serMember env pfx args (buildMember spec m oib).1 s = serMember env pfx args (buildMember spec m oib).1.erase s ∧
    OibOK (buildMember spec m oib).2 (serMember env pfx args (buildMember spec m oib).1 s).at_ := by
  obtain ⟨name, ft⟩ := m
  cases ft with
  | el e =>
    cases e with
    | sc sc =>
      simp only [buildMember, serMember, MOp.erase]
      have hsrc : (spec name).getD .arg ≠ .uuid := by
        simp only [specOK] at hsp
        cases hs : spec name with
        | none => simp
        | some x => simp only [Option.getD_some]; intro e; exact hsp (by rw [hs, e])
      exact buildElem_level0 env (.sc sc) _ oib _ hal h hsrc
    | sarr n e =>
      simp only [buildMember, serMember, MOp.erase]
      exact buildElem_level0 env (.sarr n e) .arg oib _ hal h (by simp)
  | darr ln e =>
    simp only [buildMember, serMember, MOp.erase]
    have hpre : ((tryAlign false oib e.align).1).isSome ∨ e.align % 8 ≠ 0 := by
      by_cases h8 : e.align % 8 = 0
      · left
        cases oib <;> simp [tryAlign, h8]
      · right; exact h8
    have ih := buildElem_inArray e .arg 1 (tryAlign false oib e.align).1 (by omega) hpre
    rw [ih.1, ih.2]
    exact ⟨rfl, OibOK_none _⟩
  | uuid =>
    simp only [buildMember, serMember, MOp.erase, serElem, EOp.erase]
    refine ⟨rfl, ?_⟩
    have hok := tryAlign_ok false oib 8 ({ s with leaves := args.get (pfx ++ "_" ++ name) }) ⟨3, rfl⟩ (fun _ => h)
    intro k hk
    have h0 := hok k hk
    have h2 : (tryAlign false oib 8).2 = some 8 := by simp [tryAlign]
    rw [h2] at h0
    have hx : (serAlign (some 8) ({ s with leaves := args.get (pfx ++ "_" ++ name) } : SerSt)).at_ % 8 = 0 :=
      alignUp_mod8 _ 8 rfl
    have hy := alignUp_mod8 (serAlign (tryAlign false oib 8).2
      ({ s with leaves := args.get (pfx ++ "_" ++ name) } : SerSt)).at_ 8 rfl
    simp only [serWrite, SerSt.store]
    rw [u32_mod8]; omega

theorem buildMembers_ok (env : SerEnv) (pfx : String) (args : Args) (spec : String → Option WSrc) :
    ∀ (ms : List Member) (oib : Option Nat) (s : SerSt), (∀ m ∈ ms, m.ft.AlOK ∧ specOK spec m) → OibOK oib s.at_ →
      (buildMembers spec ms oib).1.foldl (fun a m => serMember env pfx args m a) s =
      ((buildMembers spec ms oib).1.map MOp.erase).foldl (fun a m => serMember env pfx args m a) s
  | [], _, _, _, _ => rfl
  | m :: ms, oib, s, hms, h => by
    obtain ⟨h1, h2⟩ := buildMember_ok env pfx args spec m oib s (hms m (by simp)).1 (hms m (by simp)).2 h
    simp only [buildMembers, List.foldl_cons, List.map_cons]
    rw [← h1]
    exact buildMembers_ok env pfx args spec ms _ _ (fun m' hm' => hms m' (by simp [hm'])) h2

/-- **the static start bits are the dynamic ones**: for every root structure whose alignments are powers of
    two, serialising with the operation tree `_OpBuilder` builds is serialising with the same tree in which every
    write computes its start bit from `ctx->at` -/
theorem buildRoot_transparent (env : SerEnv) (pfx : String) (args : Args) (spec : String → Option WSrc) (S : Struct)
    (hS : ∃ j, S.align = 2 ^ j) (hms : ∀ m ∈ S.members, m.ft.AlOK ∧ specOK spec m) (s : SerSt) :
    serRoot env pfx (buildRoot spec S) args s = serRoot env pfx (buildRoot spec S).erase args s := by
  simp only [serRoot, buildRoot, RootOp.erase]
  exact buildMembers_ok env pfx args spec S.members _ _ hms (tryAlign_ok false none S.align s hS (fun _ => OibOK_none _))

end BVM
