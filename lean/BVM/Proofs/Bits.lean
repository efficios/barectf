/-
  Proofs/Bits.lean — lemmas about Model/Bits.lean (core Lean only).

  Both macros are a sequence of stores `setB buf u x` in which `x` carries some bits `[lo, hi)` of byte `u`
  from the low bits of the running value and keeps the others (`IsPut`).  `PutBits β buf buf' a b f` says
  what a run of such stores has done to the bit stream; it is closed under putting adjacent ranges together,
  and everything the development knows about `bfWriteLE`, `bfWriteBE` and `memcpyLE` is read off
  `bfWriteLE_put`, `bfWriteBE_put` and `memcpyLE_put`.
-/
import BVM.Model.Bits
namespace BVM

theorem getB_setB (l : Buf) (i j x : Nat) :
    getB (setB l i x) j = if j = i ∧ i < l.length then x else getB l j := by
  simp only [getB, setB, List.getD_eq_getElem?_getD, List.getElem?_set]
  by_cases h : i = j
  · subst h; by_cases h2 : i < l.length <;> simp [h2]
  · have : ¬ j = i := fun e => h e.symm
    simp [h, this]

theorem getB_setB_same {l : Buf} {i x : Nat} (h : i < l.length) : getB (setB l i x) i = x := by
  rw [getB_setB, if_pos ⟨rfl, h⟩]

theorem getB_setB_ne {l : Buf} {i j x : Nat} (h : i ≠ j) : getB (setB l i x) j = getB l j := by
  rw [getB_setB, if_neg (fun e => h e.1.symm)]

@[simp] theorem setB_length (l : Buf) (i x : Nat) : (setB l i x).length = l.length := by
  simp [setB]

theorem itb_shiftRight (v : Int) (k q : Nat) : itb (v >>> k) q = itb v (k + q) := by
  cases v with
  | ofNat n =>
    show itb (Int.ofNat (n >>> k)) q = _
    simp [itb, Nat.testBit_shiftRight]
  | negSucc n =>
    show itb (Int.negSucc (n >>> k)) q = _
    simp [itb, Nat.testBit_shiftRight]

theorem emod_pow_ofNat (a n : Nat) : (Int.ofNat a) % (2:Int)^n = Int.ofNat (a % 2^n) := by
  have : ((2:Int)^n) = ((2^n : Nat) : Int) := by simp
  rw [this]; rfl

theorem emod_pow_negSucc (a n : Nat) : (Int.negSucc a) % (2:Int)^n = Int.ofNat (2^n - (a % 2^n + 1)) := by
  have hpos : (0:Int) < (2:Int)^n := Int.pow_pos (by decide)
  rw [Int.negSucc_emod a hpos]
  have h2 : ((2:Int)^n) = ((2^n : Nat) : Int) := by simp
  have hlt : a % 2^n < 2^n := Nat.mod_lt _ (Nat.two_pow_pos n)
  rw [h2]
  show _ = ((2^n - (a % 2^n + 1) : Nat) : Int)
  omega

/-- the bits of `(v mod 2^n).toNat` are the two's-complement bits of `v` below `n` -/
theorem toNat_emod_testBit (v : Int) (n q : Nat) :
    ((v % (2 : Int) ^ n).toNat).testBit q = (decide (q < n) && itb v q) := by
  cases v with
  | ofNat a => rw [emod_pow_ofNat]; exact Nat.testBit_mod_two_pow ..
  | negSucc a =>
    rw [emod_pow_negSucc]
    refine (Nat.testBit_two_pow_sub_succ (Nat.mod_lt _ (Nat.two_pow_pos n)) q).trans ?_
    rw [Nat.testBit_mod_two_pow]; by_cases h : q < n <;> simp [h, itb]

theorem toNat_emod_lt (v : Int) (n : Nat) : (v % (2 : Int) ^ n).toNat < 2 ^ n :=
  Nat.lt_pow_two_of_testBit _ fun i hi => by rw [toNat_emod_testBit, decide_eq_false (Nat.not_lt.2 hi)]; rfl

theorem itb_emod_pow (v : Int) (n q : Nat) : itb (v % (2:Int)^n) q = (decide (q < n) && itb v q) := by
  rw [← toNat_emod_testBit, ← Int.toNat_of_nonneg (Int.emod_nonneg v (Int.ne_of_gt (Int.pow_pos (by decide))))]
  rfl

theorem u8_testBit (v : Int) (q : Nat) : (u8 v).testBit q = (decide (q < 8) && itb v q) :=
  toNat_emod_testBit v 8 q

theorem trim_itb (W len : Nat) (v0 : Int) (j : Nat) (hj : j < len) :
    itb (if len < W then v0 % (2 : Int) ^ len else v0) j = itb v0 j := by
  by_cases h : len < W
  · simp [h, itb_emod_pow, hj]
  · simp [h]

theorem shrRep_eq (k n : Nat) (v : Int) : shrRep k n v = v >>> (k * n) := by
  induction n generalizing v with
  | zero => simp [shrRep]
  | succ n ih =>
    simp only [shrRep]
    rw [ih, ← Int.shiftRight_add]
    congr 1
    rw [Nat.mul_succ]; omega

theorem pwRshift_eq (W : Nat) (v : Int) (k : Nat) : pwRshift W v k = v >>> k := by
  unfold pwRshift
  simp only
  rw [shrRep_eq, ← Int.shiftRight_add]
  congr 1
  exact Nat.div_add_mod (k) (W - 1)

theorem lowMask_testBit (c q : Nat) : (2 ^ c - 1).testBit q = decide (q < c) :=
  Nat.testBit_two_pow_sub_one c q

theorem lowMask_lt (c : Nat) (hc : c ≤ 8) : 2 ^ c - 1 < 256 := by
  have := Nat.pow_le_pow_right (by decide : 0 < 2) hc
  have := Nat.two_pow_pos c
  omega

theorem not8_testBit (m q : Nat) (hm : m < 256) :
    (255 - m).testBit q = (decide (q < 8) && !m.testBit q) := by
  rw [show 255 - m = 2 ^ 8 - (m + 1) by omega]
  exact Nat.testBit_two_pow_sub_succ hm q

/-- `(uint8_t) (~0 << e)` is the complement of the low mask -/
theorem hiMask_testBit (e q : Nat) (he : e ≤ 8) :
    (256 - 2 ^ e).testBit q = (decide (q < 8) && !decide (q < e)) := by
  have : 256 - 2 ^ e = 255 - (2 ^ e - 1) := by have := Nat.two_pow_pos e; omega
  rw [this, not8_testBit _ _ (lowMask_lt e he), lowMask_testBit]

theorem hiMask_lt (e : Nat) : 256 - 2 ^ e < 256 := by
  have := Nat.two_pow_pos e; omega

/-- `(old & mask) | (new & ~mask)` on bytes -/
theorem mux_testBit (old new mask q : Nat) (hm : mask < 256) (hq : q < 8) :
    ((old &&& mask) ||| (new &&& (255 - mask))).testBit q = if mask.testBit q then old.testBit q else new.testBit q := by
  rw [Nat.testBit_or, Nat.testBit_and, Nat.testBit_and, not8_testBit _ _ hm]
  cases mask.testBit q <;> simp [hq]

theorem u8_shl_testBit (v : Int) (c q : Nat) (hq : q < 8) :
    ((u8 v <<< c) % 256).testBit q = (decide (c ≤ q) && itb v (q - c)) := by
  rw [show (256 : Nat) = 2 ^ 8 from rfl, Nat.testBit_mod_two_pow, Nat.testBit_shiftLeft, u8_testBit]
  have : q - c < 8 := by omega
  simp [hq, this]

/-- bits `[lo, hi)` of the byte `x` are the low bits of `v`; its other bits below 8 are those of `old`.
    The four stores of the macros (`isPut_*`) and the one of `memcpy` are of this kind. -/
def IsPut (x old lo hi : Nat) (v : Int) : Prop :=
  ∀ q, q < 8 → x.testBit q = if lo ≤ q ∧ q < hi then itb v (q - lo) else old.testBit q

theorem isPut_u8 (old : Nat) (v : Int) : IsPut (u8 v) old 0 8 v := by
  intro q hq; simp [u8_testBit, hq]

theorem isPut_lo (old : Nat) (v : Int) (c : Nat) (hc : c ≤ 8) :
    IsPut ((old &&& (2 ^ c - 1)) ||| (((u8 v <<< c) % 256) &&& (255 - (2 ^ c - 1)))) old c 8 v := by
  intro q hq
  rw [mux_testBit _ _ _ _ (lowMask_lt c hc) hq, lowMask_testBit, u8_shl_testBit _ _ _ hq]
  by_cases h : q < c
  · simp [h, Nat.not_le.2 h]
  · simp [h, Nat.not_lt.1 h, hq]

theorem isPut_hi (old : Nat) (v : Int) (e : Nat) (he : e ≤ 8) :
    IsPut ((old &&& (256 - 2 ^ e)) ||| (u8 v &&& (255 - (256 - 2 ^ e)))) old 0 e v := by
  intro q hq
  rw [mux_testBit _ _ _ _ (hiMask_lt e) hq, hiMask_testBit _ _ he, u8_testBit]
  by_cases h : q < e <;> simp [h, hq]

theorem isPut_lohi (old : Nat) (v : Int) (c e : Nat) (hc : c ≤ 8) (he : e ≤ 8) :
    IsPut ((old &&& ((2 ^ c - 1) ||| (256 - 2 ^ e))) |||
      (((u8 v <<< c) % 256) &&& (255 - ((2 ^ c - 1) ||| (256 - 2 ^ e))))) old c e v := by
  intro q hq
  rw [mux_testBit _ _ _ _ (Nat.or_lt_two_pow (n := 8) (lowMask_lt c hc) (hiMask_lt e)) hq, Nat.testBit_or,
    lowMask_testBit, hiMask_testBit _ _ he, u8_shl_testBit _ _ _ hq]
  by_cases h1 : q < c
  · simp [h1, Nat.not_le.2 h1]
  · by_cases h2 : q < e <;> simp [h1, h2, hq, Nat.not_lt.1 h1]

theorem bitLE_mk (buf : Buf) (k : Nat) {q : Nat} (hq : q < 8) : bitLE buf (8 * k + q) = (getB buf k).testBit q := by
  rw [bitLE, Nat.mul_add_div (by decide), Nat.div_eq_of_lt hq, Nat.mul_add_mod, Nat.mod_eq_of_lt hq]; rfl

theorem bitBE_mk (buf : Buf) (k : Nat) {q : Nat} (hq : q < 8) : bitBE buf (8 * k + q) = (getB buf k).testBit (7 - q) := by
  rw [bitBE, Nat.mul_add_div (by decide), Nat.div_eq_of_lt hq, Nat.mul_add_mod, Nat.mod_eq_of_lt hq]; rfl

theorem bitBE_mk' (buf : Buf) (k : Nat) {q : Nat} (hq : q < 8) : bitBE buf (8 * k + 7 - q) = (getB buf k).testBit q := by
  rw [Nat.add_sub_assoc (by omega), bitBE_mk _ _ (by omega), show 7 - (7 - q) = q by omega]

/-- `buf'` is `buf` with the bits `[a, b)` of the stream (bit numbering `β`) replaced by `f`.
    No bound is assumed: `bits` speaks of the positions the buffer has, and a byte the range does not
    meet is equal as a number (a byte of the list may exceed 255, so this is more than `bits` says). -/
structure PutBits (β : Buf → Nat → Bool) (buf buf' : Buf) (a b : Nat) (f : Nat → Bool) : Prop where
  le : a ≤ b
  length : buf'.length = buf.length
  bytes : ∀ k, 8 * k + 8 ≤ a ∨ b ≤ 8 * k → getB buf' k = getB buf k
  bits : ∀ i, i < 8 * buf.length → β buf' i = if a ≤ i ∧ i < b then f i else β buf i

namespace PutBits
variable {β : Buf → Nat → Bool} {b0 b1 b2 : Buf} {a b c : Nat} {f g : Nat → Bool}

theorem refl (β) (buf : Buf) (a : Nat) (f) : PutBits β buf buf a a f :=
  ⟨Nat.le_refl a, rfl, fun _ _ => rfl, fun i _ => (if_neg (by omega)).symm⟩

theorem congr (h : PutBits β b0 b1 a b f) (hfg : ∀ i, a ≤ i → i < b → f i = g i) : PutBits β b0 b1 a b g :=
  ⟨h.le, h.length, h.bytes, fun i hi => by
    rw [h.bits i hi]; by_cases hr : a ≤ i ∧ i < b
    · rw [if_pos hr, if_pos hr, hfg i hr.1 hr.2]
    · rw [if_neg hr, if_neg hr]⟩

/-- two runs of stores on adjacent ranges, the upper one second (the LE macro) or first (the BE macro) -/
theorem comp {a1 e1 a2 e2 : Nat} (h1 : PutBits β b0 b1 a1 e1 f) (h2 : PutBits β b1 b2 a2 e2 f)
    (h : a = a1 ∧ e1 = a2 ∧ e2 = c ∨ a = a2 ∧ e2 = a1 ∧ e1 = c) : PutBits β b0 b2 a c f :=
  have hl1 := h1.le; have hl2 := h2.le
  ⟨by omega, h2.length.trans h1.length,
   fun k hk => (h2.bytes k (by omega)).trans (h1.bytes k (by omega)),
   fun i hi => by
    rw [h2.bits i (h1.length ▸ hi), h1.bits i hi]
    by_cases hr : a ≤ i ∧ i < c
    · rw [if_pos hr]
      by_cases h' : a2 ≤ i ∧ i < e2
      · rw [if_pos h']
      · rw [if_neg h', if_pos (by omega)]
    · rw [if_neg hr, if_neg (by omega), if_neg (by omega)]⟩

theorem append (h1 : PutBits β b0 b1 a b f) (h2 : PutBits β b1 b2 b c f) : PutBits β b0 b2 a c f :=
  comp h1 h2 (.inl ⟨rfl, rfl, rfl⟩)

theorem prepend (h1 : PutBits β b0 b1 b c f) (h2 : PutBits β b1 b2 a b f) : PutBits β b0 b2 a c f :=
  comp h1 h2 (.inr ⟨rfl, rfl, rfl⟩)

/-- when the range lies inside the buffer, `bits` holds of every position; `hβ` : `bitLE_local`, `bitBE_local` -/
theorem bits' (h : PutBits β b0 b1 a b f)
    (hβ : ∀ b b' i, getB b (i / 8) = getB b' (i / 8) → β b i = β b' i) (hb : b ≤ 8 * b0.length) (i : Nat) :
    β b1 i = if a ≤ i ∧ i < b then f i else β b0 i := by
  by_cases hi : i < 8 * b0.length
  · exact h.bits i hi
  · rw [if_neg (by omega), hβ _ _ _ (h.bytes (i / 8) (Or.inr (by omega)))]

end PutBits

theorem bitLE_local (b b' : Buf) (i : Nat) (h : getB b (i / 8) = getB b' (i / 8)) : bitLE b i = bitLE b' i := by
  unfold bitLE; rw [h]

theorem bitBE_local (b b' : Buf) (i : Nat) (h : getB b (i / 8) = getB b' (i / 8)) : bitBE b i = bitBE b' i := by
  unfold bitBE; rw [h]

/-- one store of the LE macro: byte `u` gets `x`, which carries the bits `[lo, hi)` of the byte from `w`, the value
    `v` with the `a - p` bits already written shifted out -/
theorem setB_putLE (buf : Buf) (u : Nat) {x lo hi a b p : Nat} {w v : Int} (hx : IsPut x (getB buf u) lo hi w)
    (hlo : lo < hi) (hhi : hi ≤ 8) (ha : a = 8 * u + lo) (hb : b = 8 * u + hi) (hp : p ≤ a) (hw : w = v >>> (a - p)) :
    PutBits bitLE buf (setB buf u x) a b (fun i => itb v (i - p)) := by
  subst ha hb hw
  refine ⟨by omega, setB_length .., fun k hk => ?_, fun i hin => ?_⟩
  · rw [getB_setB, if_neg (by omega)]
  · have hq := Nat.mod_lt i (by decide : 0 < 8)
    rw [← Nat.div_add_mod i 8] at hin ⊢
    generalize i / 8 = k, i % 8 = q at hin hq ⊢
    rw [bitLE_mk _ _ hq, bitLE_mk _ _ hq, getB_setB]
    by_cases hk : k = u
    · subst hk
      rw [if_pos ⟨rfl, by omega⟩, hx _ hq]
      by_cases hr : lo ≤ q ∧ q < hi
      · rw [if_pos hr, if_pos (by omega), itb_shiftRight]; congr 1; omega
      · rw [if_neg hr, if_neg (by omega)]
    · rw [if_neg (fun x => hk x.1), if_neg (by omega)]

/-- one store of the BE macro: the same byte, whose bits `[lo, hi)` are the bits `[8u+8-hi, 8u+8-lo)` of the stream;
    `e` is the end of the field and `e - b` bits are already written -/
theorem setB_putBE (buf : Buf) (u : Nat) {x lo hi a b e : Nat} {w v : Int} (hx : IsPut x (getB buf u) lo hi w)
    (hlo : lo < hi) (hhi : hi ≤ 8) (ha : a + hi = 8 * u + 8) (hb : b + lo = 8 * u + 8) (he : b ≤ e) (hw : w = v >>> (e - b)) :
    PutBits bitBE buf (setB buf u x) a b (fun i => itb v (e - 1 - i)) := by
  refine ⟨by omega, setB_length .., fun k hk => ?_, fun i hi => ?_⟩
  · rw [getB_setB, if_neg (by omega)]
  · have hq := Nat.mod_lt i (by decide : 0 < 8)
    rw [← Nat.div_add_mod i 8] at hi ⊢
    generalize i / 8 = k, i % 8 = q at hi hq ⊢
    rw [bitBE_mk _ _ hq, bitBE_mk _ _ hq, getB_setB]
    by_cases hk : k = u
    · rw [if_pos ⟨hk, by omega⟩, hx _ (by omega), hk]
      by_cases hr : a ≤ 8 * u + q ∧ 8 * u + q < b
      · rw [if_pos hr, if_pos (by omega), hw, itb_shiftRight]; congr 1; omega
      · rw [if_neg hr, if_neg (by omega)]
    · rw [if_neg (fun x => hk x.1), if_neg (by omega)]

/-! ### little endian: `p` is the start of the field, the units are visited upwards -/

/-- whole units: the loop invariant is `w = v >>> (bits written so far)` -/
theorem leLoop_put (W : Nat) {p : Nat} {v : Int} : ∀ (n : Nat) (buf : Buf) (u : Nat) (w : Int),
    p ≤ 8 * u → w = v >>> (8 * u - p) →
    ∃ mb, leLoop W n buf u w = (mb, v >>> (8 * (u + n) - p), u + n) ∧
      PutBits bitLE buf mb (8 * u) (8 * (u + n)) (fun i => itb v (i - p))
  | 0, buf, u, w, _, hw => ⟨buf, by rw [hw]; rfl, PutBits.refl ..⟩
  | n + 1, buf, u, w, hp, hw => by
    have h1 := setB_putLE (a := 8 * u) (b := 8 * (u + 1)) buf u (isPut_u8 (getB buf u) w) (by decide) (Nat.le_refl 8)
      rfl rfl hp hw
    obtain ⟨mb, hm, h2⟩ := leLoop_put W (p := p) (v := v) n (setB buf u (u8 w)) (u + 1) (pwRshift W w 8) (by omega)
      (by rw [pwRshift_eq, hw, ← Int.shiftRight_add]; congr 1; omega)
    rw [show u + 1 + n = u + (n + 1) by omega] at hm h2
    exact ⟨mb, hm, h1.append h2⟩

/-! ### positions: the macros' unit and bit numbers against positions in the stream.  Every `/ 8` and `% 8` of the
    piece lemmas below goes through these; the pieces themselves carry no arithmetic of their own. -/

/-- bit `n` of the array that starts at unit `base` is bit `n % 8` of unit `base + n / 8` -/
theorem pos_split (base n : Nat) : 8 * base + n = 8 * (base + n / 8) + n % 8 := by omega

theorem mod8_le (n : Nat) : n % 8 ≤ 8 := Nat.le_of_lt (Nat.mod_lt n (by decide))

theorem ceil_of_ne {n : Nat} (h : n % 8 ≠ 0) : (n + 7) / 8 = n / 8 + 1 := by omega

theorem ceil_of_eq {n : Nat} (h : ¬ n % 8 ≠ 0) : (n + 7) / 8 = n / 8 ∧ 8 * (n / 8) = n := by omega

/-- `end_unit - 1` is the unit of the last bit, and `end % 8`, read as 8 when it is 0, the number of its bits in the field -/
theorem last_unit {n : Nat} (hn : n ≠ 0) : 8 * ((n + 7) / 8 - 1) + (if n % 8 ≠ 0 then n % 8 else 8) = n := by
  split
  next h => rw [ceil_of_ne h, Nat.add_sub_cancel]; exact Nat.div_add_mod n 8
  next h => have := ceil_of_eq h; omega

/-- the single-unit test of the macros: the field ends in the unit it starts in, at bit `start % 8 + len` -/
theorem single_end {start len : Nat} (hl : len ≠ 0) (hsu : start / 8 = (start + len + 7) / 8 - 1) :
    start % 8 + len = if (start + len) % 8 ≠ 0 then (start + len) % 8 else 8 := by
  have h1 := last_unit (n := start + len) (by omega)
  have h2 := Nat.div_add_mod start 8
  rw [← hsu] at h1
  omega

/-- otherwise it reaches into a later unit -/
theorem multi_unit {start len : Nat} (hl : len ≠ 0) (hsu : ¬ start / 8 = (start + len + 7) / 8 - 1) :
    (start + 7) / 8 ≤ (start + len + 7) / 8 - 1 ∧ start / 8 + 1 ≤ (start + len) / 8 := by omega

/-- the BE macro's shift in the last unit: the bits of that unit after the field -/
theorem be_end (n : Nat) : (8 - n % 8) % 8 + (if n % 8 ≠ 0 then n % 8 else 8) = 8 := by split <;> omega

theorem leSingle_put (buf : Buf) (base start len : Nat) (v : Int) (hl : len ≠ 0)
    (hsu : start / 8 = (start + len + 7) / 8 - 1) :
    PutBits bitLE buf (leSingle buf base start len v) (8 * base + start) (8 * base + start + len)
      (fun i => itb v (i - (8 * base + start))) := by
  have hw : v = v >>> (8 * base + start - (8 * base + start)) := by simp
  have hb : 8 * base + start + len = 8 * (base + start / 8) + (start % 8 + len) := by
    rw [← Nat.add_assoc, ← pos_split]
  have hlo : start % 8 < start % 8 + len := Nat.lt_add_of_pos_right (Nat.pos_of_ne_zero hl)
  rw [single_end hl hsu] at hb hlo
  unfold leSingle wrMasked
  split
  next h =>
    rw [if_pos h] at hb hlo
    exact setB_putLE buf _ (isPut_lohi _ v _ _ (mod8_le _) (mod8_le _)) hlo (mod8_le _) (pos_split ..) hb
      (Nat.le_refl _) hw
  next h =>
    rw [if_neg h] at hb hlo
    exact setB_putLE buf _ (isPut_lo _ v _ (mod8_le _)) hlo (Nat.le_refl 8) (pos_split ..) hb (Nat.le_refl _) hw

/-- the first partial unit, if any: afterwards the next unit is the first whole one, `⌈start / 8⌉` -/
theorem leFirst_put (W : Nat) (buf : Buf) (base start : Nat) (v : Int) :
    ∃ fb, leFirst W buf base start v = (fb, v >>> (8 * (base + (start + 7) / 8) - (8 * base + start)), (start + 7) / 8) ∧
      PutBits bitLE buf fb (8 * base + start) (8 * (base + (start + 7) / 8)) (fun i => itb v (i - (8 * base + start))) := by
  have hs := pos_split base start
  unfold leFirst wrMasked
  split
  next h =>
    dsimp only
    rw [ceil_of_ne h]
    have hd : 8 * (base + (start / 8 + 1)) - (8 * base + start) = 8 - start % 8 := by
      rw [hs]; exact Nat.add_sub_add_left ..
    exact ⟨_, by rw [pwRshift_eq, hd], setB_putLE buf _ (isPut_lo _ v _ (mod8_le _)) (Nat.mod_lt _ (by decide))
      (Nat.le_refl 8) hs rfl (Nat.le_refl _) (by simp)⟩
  next h =>
    have e : 8 * (base + start / 8) = 8 * base + start := by rw [hs, Decidable.not_not.mp h]; rfl
    rw [(ceil_of_eq h).1, e]
    exact ⟨buf, by simp, PutBits.refl ..⟩

theorem leLast_put (buf : Buf) (u e : Nat) (w : Int) (he : e < 8) {p : Nat} {v : Int} (hp : p ≤ 8 * u)
    (hw : w = v >>> (8 * u - p)) :
    PutBits bitLE buf (leLast buf u e w) (8 * u) (8 * u + (if e ≠ 0 then e else 8)) (fun i => itb v (i - p)) := by
  unfold leLast wrMasked
  split
  · exact setB_putLE buf u (isPut_hi _ w e (by omega)) (by omega) (by omega) rfl rfl hp hw
  · exact setB_putLE buf u (isPut_u8 _ w) (by decide) (Nat.le_refl 8) rfl rfl hp hw

/-- `bt_bitfield_write_le`: stream bit `p + j`, `j < len`, becomes bit `j` of the value; any buffer, any `start` -/
theorem bfWriteLE_put (vt : CInt) (buf : Buf) (base start len : Nat) (v0 : Int) :
    PutBits bitLE buf (bfWriteLE vt buf base start len v0) (8 * base + start) (8 * base + start + len)
      (fun i => itb v0 (i - (8 * base + start))) := by
  unfold bfWriteLE
  split
  next hl => subst hl; exact PutBits.refl ..
  next hl =>
    refine PutBits.congr (f := fun i => itb (if len < vt.width then v0 % (2 : Int) ^ len else v0) (i - (8 * base + start))) ?_
      (fun i h1 h2 => trim_itb _ _ _ _ (by omega))
    generalize (if len < vt.width then v0 % (2 : Int) ^ len else v0) = v
    dsimp only
    split
    next hsu => exact leSingle_put buf base start len v hl hsu
    next hsu =>
      obtain ⟨fb, hf, f1⟩ := leFirst_put vt.width buf base start v
      obtain ⟨mb, hm, m1⟩ := leLoop_put vt.width (v := v) ((start + len + 7) / 8 - 1 - (start + 7) / 8) fb _ _ f1.le rfl
      simp only [hf]
      simp only [hm]
      have l1 := leLast_put (v := v) mb _ ((start + len) % 8) _ (Nat.mod_lt _ (by decide)) (f1.append m1).le rfl
      have e : 8 * (base + (start + 7) / 8 + ((start + len + 7) / 8 - 1 - (start + 7) / 8)) +
          (if (start + len) % 8 ≠ 0 then (start + len) % 8 else 8) = 8 * base + start + len := by
        rw [Nat.add_assoc base, Nat.add_sub_cancel' (multi_unit hl hsu).1, Nat.mul_add, Nat.add_assoc,
          last_unit (by omega), Nat.add_assoc]
      rw [e] at l1
      exact (f1.append m1).append l1

/-! ### big endian: `e` is the end of the field, the units are visited downwards -/

/-- whole units, from unit `l + n` down to `l + 1`: the loop invariant is `w = v >>> (bits written so far)` -/
theorem beLoop_put (W : Nat) {e : Nat} {v : Int} : ∀ (n : Nat) (buf : Buf) (l : Nat) (w : Int),
    8 * (l + n + 1) ≤ e → w = v >>> (e - 8 * (l + n + 1)) →
    ∃ mb, beLoop W n buf (l + n) w = (mb, v >>> (e - 8 * (l + 1)), l) ∧
      PutBits bitBE buf mb (8 * (l + 1)) (8 * (l + n + 1)) (fun i => itb v (e - 1 - i))
  | 0, buf, l, w, _, hw => ⟨buf, by rw [hw]; rfl, PutBits.refl ..⟩
  | n + 1, buf, l, w, he, hw => by
    have h1 := setB_putBE (a := 8 * (l + n + 1)) (b := 8 * (l + (n + 1) + 1)) buf (l + (n + 1)) (isPut_u8 _ w)
      (by decide) (Nat.le_refl 8) (by omega) (by omega) he hw
    obtain ⟨mb, hm, h2⟩ := beLoop_put W (e := e) (v := v) n (setB buf (l + (n + 1)) (u8 w)) l (pwRshift W w 8)
      (Nat.le_trans h1.le he) (by rw [pwRshift_eq, hw, ← Int.shiftRight_add]; congr 1; omega)
    exact ⟨mb, hm, h1.prepend h2⟩

theorem beSingle_put (buf : Buf) (base start len : Nat) (v : Int) (hl : len ≠ 0)
    (hsu : start / 8 = (start + len + 7) / 8 - 1) :
    PutBits bitBE buf (beSingle buf base start len v) (8 * base + start) (8 * base + start + len)
      (fun i => itb v (8 * base + start + len - 1 - i)) := by
  have hw : v = v >>> (8 * base + start + len - (8 * base + start + len)) := by simp
  have hs := pos_split base start
  have hr := mod8_le start
  have hH := be_end (start + len)
  rw [← single_end hl hsu] at hH
  have hl' := Nat.pos_of_ne_zero hl
  unfold beSingle wrMasked
  dsimp only
  rw [← hsu]
  clear hsu hl
  generalize (8 - (start + len) % 8) % 8 = sh at hH ⊢
  generalize start / 8 = u at hs ⊢
  generalize start % 8 = r at *
  -- the field is the bits `[sh, 8 - r)` of its byte
  have hlo : sh < 8 - r := by omega
  have ha : 8 * base + start + (8 - r) = 8 * (base + u) + 8 := by omega
  have hb : 8 * base + start + len + sh = 8 * (base + u) + 8 := by omega
  split
  next h =>
    exact setB_putBE buf _ (isPut_lohi _ v sh _ (Nat.le_of_lt (Nat.lt_of_lt_of_le hlo (Nat.sub_le ..))) (Nat.sub_le ..)) hlo
      (Nat.sub_le ..) ha hb (Nat.le_refl _) hw
  next h =>
    have h0 : r = 0 := Decidable.not_not.mp h
    subst h0
    exact setB_putBE buf _ (isPut_lo _ v sh (Nat.le_of_lt hlo)) hlo (Nat.le_refl 8) ha hb (Nat.le_refl _) hw

/-- the partial unit at the end of the field, if any: afterwards `fu` is the last whole unit, `fu + 1 = ⌊end_ / 8⌋` -/
theorem beFirst_put (W : Nat) (buf : Buf) (base end_ : Nat) (v : Int) (he0 : 8 ≤ end_) :
    ∃ fb fu, beFirst W buf base end_ v = (fb, v >>> (8 * base + end_ - 8 * (base + fu + 1)), fu) ∧ fu + 1 = end_ / 8 ∧
      PutBits bitBE buf fb (8 * (base + fu + 1)) (8 * base + end_) (fun i => itb v (8 * base + end_ - 1 - i)) := by
  have hs := pos_split base end_
  have hc := mod8_le end_
  obtain ⟨q, hq⟩ : ∃ q, end_ / 8 = q + 1 := Nat.exists_eq_succ_of_ne_zero (by omega)
  rw [hq] at hs ⊢
  clear he0
  unfold beFirst wrMasked
  dsimp only
  split
  next h =>
    have e1 : (end_ + 7) / 8 - 1 = q + 1 := by rw [ceil_of_ne h, hq]; rfl
    have e2 : (end_ + 7) / 8 - 2 = q := by rw [ceil_of_ne h, hq]; rfl
    rw [e1, e2]
    have hb : 8 * base + end_ + (8 - end_ % 8) = 8 * (base + (q + 1)) + 8 := by
      rw [hs, Nat.add_assoc, Nat.add_sub_cancel' hc]
    have hd : 8 * base + end_ - 8 * (base + q + 1) = end_ % 8 := by rw [hs]; exact Nat.add_sub_cancel_left ..
    exact ⟨_, q, by rw [pwRshift_eq, hd]; rfl, rfl, setB_putBE buf _ (isPut_lo _ v _ (Nat.sub_le ..))
      (Nat.sub_lt (by decide) (Nat.pos_of_ne_zero h)) (Nat.le_refl 8) rfl hb (Nat.le_refl _) (by simp)⟩
  next h =>
    have e : 8 * (base + q + 1) = 8 * base + end_ := by rw [hs, Decidable.not_not.mp h]; rfl
    rw [(ceil_of_eq h).1, hq]
    exact ⟨buf, q, by simp [e], rfl, e ▸ PutBits.refl ..⟩

theorem beLast_put (buf : Buf) (u s : Nat) (w : Int) (hs : s < 8) {e : Nat} {v : Int} (he : 8 * (u + 1) ≤ e)
    (hw : w = v >>> (e - 8 * (u + 1))) :
    PutBits bitBE buf (beLast buf u s w) (8 * u + s) (8 * (u + 1)) (fun i => itb v (e - 1 - i)) := by
  unfold beLast wrMasked
  split
  · exact setB_putBE buf u (isPut_hi _ w (8 - s) (by omega)) (by omega) (by omega) (by omega) (by omega) he hw
  · exact setB_putBE buf u (isPut_u8 _ w) (by decide) (Nat.le_refl 8) (by omega) (by omega) he hw

/-- `bt_bitfield_write_be`: stream bit `p + j`, `j < len`, becomes bit `len - 1 - j` of the value -/
theorem bfWriteBE_put (vt : CInt) (buf : Buf) (base start len : Nat) (v0 : Int) :
    PutBits bitBE buf (bfWriteBE vt buf base start len v0) (8 * base + start) (8 * base + start + len)
      (fun i => itb v0 (8 * base + start + len - 1 - i)) := by
  unfold bfWriteBE
  split
  next hl => subst hl; exact PutBits.refl ..
  next hl =>
    refine PutBits.congr (f := fun i => itb (if len < vt.width then v0 % (2 : Int) ^ len else v0) (8 * base + start + len - 1 - i)) ?_
      (fun i h1 h2 => trim_itb _ _ _ _ (by omega))
    generalize (if len < vt.width then v0 % (2 : Int) ^ len else v0) = v
    dsimp only
    split
    next hsu => exact beSingle_put buf base start len v hl hsu
    next hsu =>
      have hm := (multi_unit hl hsu).2
      obtain ⟨fb, fu, hf, f3, f1⟩ := beFirst_put vt.width buf base (start + len) v (by omega)
      have hfu : base + fu = base + start / 8 + (fu - start / 8) := by
        rw [Nat.add_assoc, Nat.add_sub_cancel' (Nat.le_of_lt_succ (f3.symm ▸ hm : start / 8 < fu + 1))]
      simp only [hf]
      rw [← Nat.add_assoc] at f1 ⊢
      rw [hfu] at f1 ⊢
      obtain ⟨mb, hm', m1⟩ := beLoop_put vt.width (v := v) (fu - start / 8) fb (base + start / 8) _ f1.le rfl
      simp only [hm']
      have l1 := beLast_put (v := v) mb _ (start % 8) _ (Nat.mod_lt _ (by decide)) (f1.prepend m1).le rfl
      rw [show 8 * (base + start / 8) + start % 8 = 8 * base + start by omega] at l1
      exact (f1.prepend m1).prepend l1

theorem bfWriteLE_bit (vt : CInt) (buf : Buf) (base start len : Nat) (v : Int)
    (hb : base + (start + len + 7) / 8 ≤ buf.length) (i : Nat) :
    bitLE (bfWriteLE vt buf base start len v) i =
      if 8 * base + start ≤ i ∧ i < 8 * base + start + len then itb v (i - (8 * base + start)) else bitLE buf i :=
  (bfWriteLE_put vt buf base start len v).bits' bitLE_local (by omega) i

theorem bfWriteBE_bit (vt : CInt) (buf : Buf) (base start len : Nat) (v : Int)
    (hb : base + (start + len + 7) / 8 ≤ buf.length) (i : Nat) :
    bitBE (bfWriteBE vt buf base start len v) i =
      if 8 * base + start ≤ i ∧ i < 8 * base + start + len then itb v (8 * base + start + len - 1 - i) else bitBE buf i :=
  (bfWriteBE_put vt buf base start len v).bits' bitBE_local (by omega) i

theorem bfWriteLE_spec (vt : CInt) (buf : Buf) (base start len : Nat) (v0 : Int)
    (hb : base + (start + len + 7) / 8 ≤ buf.length) :
    (bfWriteLE vt buf base start len v0).length = buf.length ∧
    ∀ k q, q < 8 →
    (getB (bfWriteLE vt buf base start len v0) k).testBit q =
      if 8 * base + start ≤ 8 * k + q ∧ 8 * k + q < 8 * base + start + len
      then itb v0 (8 * k + q - (8 * base + start)) else (getB buf k).testBit q :=
  ⟨(bfWriteLE_put ..).length, fun k q hq => by
    rw [← bitLE_mk _ _ hq, ← bitLE_mk _ _ hq]; exact bfWriteLE_bit vt buf base start len v0 hb _⟩

theorem bfWriteBE_spec (vt : CInt) (buf : Buf) (base start len : Nat) (v0 : Int)
    (hb : base + (start + len + 7) / 8 ≤ buf.length) :
    (bfWriteBE vt buf base start len v0).length = buf.length ∧
    ∀ k q, q < 8 →
    (getB (bfWriteBE vt buf base start len v0) k).testBit q =
      if 8 * base + start ≤ 8 * k + 7 - q ∧ 8 * k + 7 - q < 8 * base + start + len
      then itb v0 (8 * base + start + len - 1 - (8 * k + 7 - q)) else (getB buf k).testBit q :=
  ⟨(bfWriteBE_put ..).length, fun k q hq => by
    rw [← bitBE_mk' _ _ hq, ← bitBE_mk' _ _ hq]; exact bfWriteBE_bit vt buf base start len v0 hb _⟩

def bit (bo : ByteOrder) (buf : Buf) (i : Nat) : Bool :=
  match bo with
  | .le => bitLE buf i
  | .be => bitBE buf i

theorem bit_local (bo : ByteOrder) (b b' : Buf) (i : Nat) (h : getB b (i / 8) = getB b' (i / 8)) : bit bo b i = bit bo b' i := by
  cases bo
  · exact bitLE_local b b' i h
  · exact bitBE_local b b' i h

theorem bfWrite_put (bo : ByteOrder) (vt : CInt) (buf : Buf) (base start len : Nat) (v : Int) :
    PutBits (bit bo) buf (bfWrite bo vt buf base start len v) (8 * base + start) (8 * base + start + len)
      (fun i => itb v (match bo with | .le => i - (8 * base + start) | .be => 8 * base + start + len - 1 - i)) := by
  cases bo
  · exact bfWriteLE_put vt buf base start len v
  · exact bfWriteBE_put vt buf base start len v

/-- the macros store only into the units that overlap the field, whatever the size of the buffer -/
theorem bfWrite_frame (bo : ByteOrder) (vt : CInt) (buf : Buf) (base start len : Nat) (v : Int) (k : Nat)
    (hk : k < base + start / 8 ∨ base + (start + len + 7) / 8 ≤ k) :
    getB (bfWrite bo vt buf base start len v) k = getB buf k :=
  (bfWrite_put bo vt buf base start len v).bytes k (by omega)

/-! ### the memcpy fast path is the whole-unit loop of the LE macro on a non-negative value -/

theorem memcpyLE_eq_leLoop (W : Nat) : ∀ (n : Nat) (buf : Buf) (base x : Nat),
    memcpyLE n buf base x = (leLoop W n buf base (Int.ofNat x)).1
  | 0, _, _, _ => rfl
  | n + 1, buf, base, x => by
    have h1 : u8 (Int.ofNat x) = x % 256 := by show ((x : Int) % 256).toNat = _; omega
    have h2 : pwRshift W (Int.ofNat x) 8 = Int.ofNat (x / 256) := by
      rw [pwRshift_eq]; show Int.ofNat (x >>> 8) = _; rw [Nat.shiftRight_eq_div_pow]
    rw [memcpyLE, leLoop, h1, h2, memcpyLE_eq_leLoop W n]

theorem memcpyLE_put (n : Nat) (buf : Buf) (base x : Nat) :
    PutBits bitLE buf (memcpyLE n buf base x) (8 * base) (8 * (base + n)) (fun i => x.testBit (i - 8 * base)) := by
  -- `leLoop W` does not depend on `W` (`pwRshift_eq`): any value will do
  obtain ⟨mb, hm, h⟩ := leLoop_put 0 (p := 8 * base) (v := Int.ofNat x) n buf base (Int.ofNat x) (Nat.le_refl _) (by simp)
  rw [memcpyLE_eq_leLoop 0, hm]
  exact h

theorem memcpyLE_length (n : Nat) (buf : Buf) (base x : Nat) : (memcpyLE n buf base x).length = buf.length :=
  (memcpyLE_put n buf base x).length

theorem memcpyLE_frame (n : Nat) (buf : Buf) (base x k : Nat) (hk : k < base ∨ base + n ≤ k) :
    getB (memcpyLE n buf base x) k = getB buf k :=
  (memcpyLE_put n buf base x).bytes k (by omega)

/-- the bytes `memcpy` leaves behind: byte `j` of the little-endian representation of `x` -/
theorem memcpyLE_get (n : Nat) : ∀ (buf : Buf) (base x k : Nat), base + n ≤ buf.length →
    getB (memcpyLE n buf base x) k =
      if base ≤ k ∧ k < base + n then (x / 256 ^ (k - base)) % 256 else getB buf k := by
  induction n with
  | zero => intro buf base x k _; simp [memcpyLE]; intro h1 h2; omega
  | succ n ih =>
    intro buf base x k h
    simp only [memcpyLE]
    rw [ih _ _ _ _ (by simp; omega)]
    by_cases hk : k = base
    · subst hk
      have h1 : ¬ (k + 1 ≤ k ∧ k < k + 1 + n) := by omega
      have h2 : (k ≤ k ∧ k < k + (n + 1)) := by omega
      rw [if_neg h1, if_pos h2, getB_setB_same (by omega)]; simp
    · rw [getB_setB_ne (Ne.symm hk)]
      by_cases hr : base + 1 ≤ k ∧ k < base + 1 + n
      · have h2 : (base ≤ k ∧ k < base + (n + 1)) := by omega
        rw [if_pos hr, if_pos h2, Nat.div_div_eq_div_mul]
        have : k - base = (k - (base + 1)) + 1 := by omega
        rw [this, Nat.pow_succ, Nat.mul_comm]
      · have h2 : ¬ (base ≤ k ∧ k < base + (n + 1)) := by omega
        rw [if_neg hr, if_neg h2]

end BVM
