/-
  Proofs/Patch.lean — the patching function (Model/Patch.lean): what a property and the key list of a patched
  mapping are, `merge` by kinds of values, structure members patched as the ordered map they denote.
-/
import BVM.Proofs.KV
namespace BVM

@[simp] theorem patchMap_nil (v3 : Bool) (b : KVs) : patchMap v3 b [] = b := by
  rw [patchMap]

@[simp] theorem patchMap_cons (v3 : Bool) (b : KVs) (k : String) (ov : Y) (rest : KVs) :
    patchMap v3 b ((k, ov) :: rest) = patchMap v3 (upsertWith k (fun bv => merge v3 k bv ov) ov b) rest := by
  rw [patchMap]

/-- whatever holds of every property of the base and of the overlay, and is kept by `merge`, holds of every
    property of the patched mapping (no hypothesis on the keys) -/
theorem patchMap_forall (v3 : Bool) (P : String → Y → Prop)
    (hm : ∀ k bv ov, P k bv → P k ov → P k (merge v3 k bv ov)) : ∀ (o b : KVs),
    (∀ k v, kvGet k b = some v → P k v) → (∀ kv ∈ o, P kv.1 kv.2) →
    ∀ k v, kvGet k (patchMap v3 b o) = some v → P k v
  | [], _, hb, _ => by rw [patchMap_nil]; exact hb
  | (k', ov) :: rest, b, hb, ho => by
    rw [patchMap_cons]
    refine patchMap_forall v3 P hm rest _ (fun k v h => ?_) fun kv hkv => ho kv (List.mem_cons_of_mem _ hkv)
    have hov : P k' ov := ho _ List.mem_cons_self
    rw [kvGet_upsertWith] at h
    split at h
    · subst_vars
      cases h
      split
      · exact hm _ _ _ (hb _ _ ‹_›) hov
      · exact hov
    · exact hb k v h

/-- value of a property after patching, for an overlay whose keys are distinct (every loaded YAML
    mapping): overlay-only → the overlay value; both → `merge`; base-only → unchanged -/
theorem kvGet_patchMap (v3 : Bool) (k : String) (o : KVs) : ∀ (b : KVs), (kvKeys o).Nodup →
    kvGet k (patchMap v3 b o) =
      match kvGet k b, kvGet k o with
      | some bv, some ov => some (merge v3 k bv ov)
      | none, some ov => some ov
      | r, none => r := by
  induction o with
  | nil => intro b _; rw [patchMap_nil]; cases kvGet k b <;> rfl
  | cons kv rest ih =>
    intro b hnd
    obtain ⟨k', ov⟩ := kv
    obtain ⟨hk', hnd'⟩ := List.nodup_cons.mp hnd
    rw [patchMap_cons, ih _ hnd', kvGet_upsertWith, kvGet_cons]
    by_cases h : k' = k
    · subst h
      rw [if_pos rfl, if_pos rfl, kvGet_eq_none_iff.mpr hk']
      cases kvGet k' b <;> rfl
    · rw [if_neg h, if_neg h]

/-- key order after patching: the base's keys in their order, then the overlay's new keys in theirs -/
theorem kvKeys_patchMap (v3 : Bool) (o : KVs) : ∀ (b : KVs), (kvKeys o).Nodup →
    kvKeys (patchMap v3 b o) = kvKeys b ++ (kvKeys o).filter (fun k => decide (k ∉ kvKeys b)) := by
  induction o with
  | nil => intro b _; exact (List.append_nil _).symm
  | cons kv rest ih =>
    intro b hnd
    obtain ⟨k', ov⟩ := kv
    obtain ⟨hk', hnd'⟩ := List.nodup_cons.mp hnd
    rw [patchMap_cons, ih _ hnd', kvKeys_upsertWith, kvKeys_cons, List.filter_cons]
    by_cases hin : k' ∈ kvKeys b
    · rw [if_pos hin, if_neg (by simpa using hin)]
    · -- `k'` is appended to the base's keys; it is not met again in the rest of the overlay
      rw [if_neg hin, if_pos (by simpa using hin), List.append_assoc, List.singleton_append]
      congr 2
      refine List.filter_congr fun x hx => ?_
      have : x ≠ k' := fun e => hk' (e ▸ hx)
      simp [this]

/-! ### `merge` by kinds -/

theorem merge_map_map (v3 : Bool) (k : String) (b o : KVs) :
    merge v3 k (.map b) (.map o) = .map (patchMap v3 b o) := by simp [merge]

theorem merge_seq_seq (v3 : Bool) (k : String) (b o : List Y) :
    merge v3 k (.seq b) (.seq o) =
      if k = "members" ∧ v3 = true then .seq (patchMembers v3 b o) else .seq (b ++ o) := by simp [merge]

/-! ### `members` as an ordered map -/

/-- a member item `- name: value` -/
def memberItem (kv : String × Y) : Y := .map [(kv.1, kv.2)]

theorem updMemberWith_items (n : String) (f : Y → Y) (v : Y) (ms : KVs) :
    updMemberWith n f (.map [(n, v)]) (ms.map memberItem) = (upsertWith n f v ms).map memberItem := by
  induction ms with
  | nil => simp [updMemberWith, upsertWith, memberItem]
  | cons kv r ih =>
    obtain ⟨k', v'⟩ := kv
    by_cases h : k' = n
    · simp [updMemberWith, upsertWith, memberItem, h]
    · simp only [List.map_cons, memberItem, updMemberWith, h, if_false, upsertWith]
      rw [← ih]

@[simp] theorem patchMembers_nil (v3 : Bool) (b : List Y) : patchMembers v3 b [] = b := by
  simp [patchMembers]

theorem patchMembers_item (v3 : Bool) (b : List Y) (n : String) (ov : Y) (rest : List Y) :
    patchMembers v3 b (.map [(n, ov)] :: rest) =
      patchMembers v3 (updMemberWith n (fun bv => merge v3 n bv ov) (.map [(n, ov)]) b) rest := by
  simp [patchMembers]

/-- structure members are patched exactly as the ordered map they denote -/
theorem patchMembers_omap (v3 : Bool) (os : KVs) : ∀ ms : KVs,
    patchMembers v3 (ms.map memberItem) (os.map memberItem) = (patchMap v3 ms os).map memberItem := by
  induction os with
  | nil => intro ms; simp
  | cons kv rest ih =>
    intro ms
    obtain ⟨n, ov⟩ := kv
    simp only [List.map_cons, memberItem, patchMap_cons]
    rw [patchMembers_item, updMemberWith_items]
    exact ih _

end BVM
