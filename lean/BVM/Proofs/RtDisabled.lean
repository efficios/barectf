/-
  Proofs/RtDisabled.lean — C07: a tracing call that finds tracing disabled after its clock sample
  does nothing but that clock sample.
-/
import BVM.Proofs.RtRules
namespace BVM

-- this file uses the model through the rules of Proofs/RtRules.lean only; `rfl` would otherwise unfold the callbacks
attribute [local irreducible] cbEnter cbClock cbFull preambleTs runSer closeBacks setBuf openWrite closeWrite cbOpen cbClose

/-- events a clock-source callback logs -/
def PClockOnly : Ev → Prop
  | .cb k _ _ _ => k = .clock
  | .cbExit k _ => k = .clock
  | .store _ _ _ _ => False
  | .deliver _ _ _ => False
  | .clockRead _ => True
  | .assertFail => False
  | .oob => False
  | .ret _ _ _ => False
  | .tsWrite _ _ => False
  | .traceCall _ _ => True
  | .recDone _ _ _ => False
  | .discard _ => False
  | .fullAnswer _ => False
  | .opened _ => False
  | .closed _ _ _ => False

/-- everything an accessor can return, plus the bookkeeping the tracer keeps for the packet -/
structure Observable where
  packetSize : Nat
  contentSize : Nat
  at_ : Nat
  offContent : Nat
  eventsDiscarded : Nat
  sequenceNumber : Nat
  packetIsOpen : Bool
  inTracingSection : Bool
  saved : List (String × Nat)
deriving DecidableEq

def Ctx.observable (c : Ctx) : Observable :=
  ⟨c.packetSize, c.contentSize, c.at_, c.offContent, c.eventsDiscarded, c.sequenceNumber, c.packetIsOpen,
    c.inTracingSection, c.saved⟩

theorem Plumb.observable {s s' : St} (h : Plumb s s') : s'.c.observable = s.c.observable :=
  (congrArg Ctx.observable h.ctx :)

/-- the entry sample of a tracing function touches nothing observable and calls the clock source only; with no toggle
    scripted it leaves `is_tracing_enabled` and the script alone -/
theorem traceClock_obs (d : DST) (s : St) :
    (traceClock d s).buf = s.buf ∧ (traceClock d s).c.observable = s.c.observable ∧
    (traceClock d s).halted = s.halted ∧ Ext PClockOnly s (traceClock d s) ∧
    (s.p.toggles = [] → (traceClock d s).c.isTracingEnabled = s.c.isTracingEnabled ∧ (traceClock d s).p.toggles = []) := by
  unfold traceClock
  split
  · rename_i clk _
    have hp := cbClock_plumb clk s
    refine ⟨hp.buf, hp.observable, hp.halted, ⟨[_, _, _], cbClock_log clk s, fun e he => ?_⟩,
      fun ht => ⟨hp.en ht, hp.toggles.trans ht⟩⟩
    simp only [List.mem_cons, List.not_mem_nil, or_false] at he
    rcases he with rfl | rfl | rfl <;> first | rfl | trivial
  · exact ⟨rfl, rfl, rfl, Ext.refl _ _, fun ht => ⟨rfl, ht⟩⟩

/-- C07, first sentence: if tracing is disabled when the call tests it (right after the clock
    sample), the call changes neither the packet buffer, nor the write position, nor any counter or
    accessor result, and invokes no platform callback other than the clock source. -/
theorem disabled_trace_is_noop_core (cfg : Cfg) (d : DST) (e : ERT) (args : Args) (s : St)
    (hd : (traceClock d s).c.isTracingEnabled = false) :
    (trace cfg d e args s).buf = s.buf ∧ (trace cfg d e args s).c.observable = s.c.observable ∧
    (trace cfg d e args s).halted = s.halted ∧
    Ext PClockOnly s (trace cfg d e args s) := by
  unfold trace
  split
  · exact ⟨rfl, rfl, rfl, Ext.refl _ _⟩
  · obtain ⟨h1, h2, h3, h4, _⟩ := traceClock_obs d s
    unfold traceBody
    simp only [St.ev_c, hd, Bool.not_false, if_true]
    exact ⟨h1, h2, h3, h4.trans (Ext.ev _ (.traceCall _ _) trivial)⟩

/-! a whole period during which tracing stays disabled -/

theorem trace_disabled_noToggle (cfg : Cfg) (d : DST) (e : ERT) (args : Args) (s : St)
    (ht : s.p.toggles = []) (hd : s.c.isTracingEnabled = false) :
    (trace cfg d e args s).c.isTracingEnabled = false ∧ (trace cfg d e args s).p.toggles = [] := by
  obtain ⟨h1, h2⟩ := (traceClock_obs d s).2.2.2.2 ht
  unfold trace
  split
  · exact ⟨hd, ht⟩
  · unfold traceBody
    have h1' := h1.trans hd
    simp only [St.ev_c, h1', Bool.not_false, if_true, St.ev_p]
    exact ⟨trivial, h2⟩

/-- a sequence of tracing calls -/
def traceMany (cfg : Cfg) (d : DST) (calls : List (ERT × Args)) (s : St) : St :=
  calls.foldl (fun s c => trace cfg d c.1 c.2 s) s

theorem disabled_period_core (cfg : Cfg) (d : DST) (calls : List (ERT × Args)) (s : St)
    (ht : s.p.toggles = []) (hd : s.c.isTracingEnabled = false) :
    (traceMany cfg d calls s).buf = s.buf ∧ (traceMany cfg d calls s).c.observable = s.c.observable ∧
    (traceMany cfg d calls s).halted = s.halted ∧ (traceMany cfg d calls s).c.isTracingEnabled = false ∧
    Ext PClockOnly s (traceMany cfg d calls s) := by
  unfold traceMany
  induction calls generalizing s with
  | nil => exact ⟨rfl, rfl, rfl, hd, Ext.refl _ _⟩
  | cons c cs ih =>
    simp only [List.foldl_cons]
    obtain ⟨e1, e2⟩ := trace_disabled_noToggle cfg d c.1 c.2 s ht hd
    have hd' : (traceClock d s).c.isTracingEnabled = false := ((traceClock_obs d s).2.2.2.2 ht).1.trans hd
    obtain ⟨a1, a2, a3, a4⟩ := disabled_trace_is_noop_core cfg d c.1 c.2 s hd'
    obtain ⟨b1, b2, b3, b4, b5⟩ := ih (trace cfg d c.1 c.2 s) e2 e1
    exact ⟨b1.trans a1, b2.trans a2, b3.trans a3, b4, a4.trans b5⟩

end BVM
