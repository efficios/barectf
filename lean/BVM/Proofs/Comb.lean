/-
  Proofs/Comb.lean — reasoning about the `FR` computations of Model/Expand.lean without unfolding them again in every
  proof: inversion of a successful bind; closed forms of the combinators (`modKey` and `modKeyS` are a lookup followed by
  an assignment, so every fact about them is a fact about `kvGet`/`kvSet`); and `FR.Sat`, one Hoare-style predicate
  (which errors, which results) with its rules for bind, monadic folds and the traversal combinators.
-/
import BVM.Model.Expand
import BVM.Proofs.KV
namespace BVM

/-! ### `Except` (`FR = Except FErr`): computing a bind, inverting a successful one -/

theorem Except.ok_bind {ε α β : Type} (a : α) (f : α → Except ε β) : (Except.ok a >>= f) = f a := rfl

theorem Except.bind_eq_ok {ε α β : Type} {x : Except ε α} {f : α → Except ε β} {b : β} :
    x >>= f = .ok b ↔ ∃ a, x = .ok a ∧ f a = .ok b := by
  cases x with
  | error e => exact ⟨fun h => (nomatch h), fun ⟨_, h, _⟩ => (nomatch h)⟩
  | ok a => exact ⟨fun h => ⟨a, rfl, h⟩, fun ⟨_, h, h'⟩ => by cases h; exact h'⟩

theorem Except.map_bind {ε α β γ : Type} (x : Except ε α) (g : α → β) (f : β → Except ε γ) :
    (x.map g >>= f) = x >>= fun a => f (g a) := by
  cases x <;> rfl

/-- a guard of a `do` block (`if c then throw e`, whatever follows it) lets through exactly when its test fails -/
theorem Except.guard_eq_ok {ε α β : Type} {c : Prop} [Decidable c] {e : ε} {f : α → Except ε β} {x : Except ε β}
    {b : β} : (if c then Except.error e >>= f else x) = .ok b ↔ ¬c ∧ x = .ok b := by
  split
  · exact ⟨nofun, fun h => absurd ‹c› h.1⟩
  · exact ⟨fun h => ⟨‹_›, h⟩, fun h => h.2⟩

/-! ### closed forms -/

theorem modKey_eq (k : String) (f : Y → FR Y) (m : KVs) :
    modKey k f m = match kvGet k m with
      | none => .ok m
      | some v => (do let v' ← f v; .ok (kvSet k v' m)) := by
  induction m with
  | nil => rfl
  | cons kv r ih =>
    simp only [modKey, kvGet, kvSet]
    split
    · rfl
    · rw [ih]; split
      · rfl
      · cases f _ <;> rfl

theorem modKeyS_eq {σ : Type} (k : String) (f : σ → Y → FR (Y × σ)) (s : σ) (m : KVs) :
    modKeyS k f s m = match kvGet k m with
      | none => .ok (m, s)
      | some v => (do let (v', s') ← f s v; .ok (kvSet k v' m, s')) := by
  induction m with
  | nil => rfl
  | cons kv r ih =>
    simp only [modKeyS, kvGet, kvSet]
    split
    · rfl
    · rw [ih]; split
      · rfl
      · cases f s _ <;> rfl

/-- the kind of the node(s) a child property holds; the measures of Proofs/NoInclude (`Kind.rank`) and of
    Proofs/Terminate (`Kind.depth`) fall along it -/
def ChildSpec.ckind : ChildSpec → Kind
  | .single k => k
  | .each k => k

/-- what a child property is replaced by -/
def childFn (rec : Kind → Y → FR Y) (cs : String × ChildSpec) : Y → FR Y :=
  match cs.2 with
  | .single k' => rec k'
  | .each k' => fun v => match v with
    | .map cm => do let cm' ← mapVals (fun _ c => rec k' c) cm; .ok (.map cm')
    | _ => .error (.shape s!"`{cs.1}` is not a mapping")

theorem childStep_eq (rec : Kind → Y → FR Y) (m : KVs) (cs : String × ChildSpec) :
    childStep rec m cs = modKey cs.1 (childFn rec cs) m := by
  obtain ⟨key, spec⟩ := cs
  cases spec <;> rfl

/-! ### the traversals keep the key list -/

theorem modKey_keys {k : String} {f : Y → FR Y} {m m' : KVs} (h : modKey k f m = .ok m') : kvKeys m' = kvKeys m := by
  rw [modKey_eq] at h
  split at h
  · cases h; rfl
  · obtain ⟨v', _, h⟩ := Except.bind_eq_ok.mp h; cases h; exact kvKeys_kvSet_of_get ‹_›

theorem modKeyS_keys {σ : Type} {k : String} {f : σ → Y → FR (Y × σ)} {s s' : σ} {m m' : KVs}
    (h : modKeyS k f s m = .ok (m', s')) : kvKeys m' = kvKeys m := by
  rw [modKeyS_eq] at h
  split at h
  · cases h; rfl
  · obtain ⟨⟨v', s1⟩, _, h⟩ := Except.bind_eq_ok.mp h; cases h; exact kvKeys_kvSet_of_get ‹_›

/-! ### one predicate for what a computation may return -/

/-- `x` fails only with errors in `E` and succeeds only with values in `P`.
    `E = fun _ => True`: partial correctness; `P = fun _ => True`, `E = (· ≠ .fuel)`: `NoFuel`. -/
def FR.Sat {α : Type} (E : FErr → Prop) (x : FR α) (P : α → Prop) : Prop :=
  match x with
  | .ok a => P a
  | .error e => E e

namespace FR.Sat
variable {α β : Type} {E : FErr → Prop}

theorem bind {x : FR α} {f : α → FR β} {P : α → Prop} {Q : β → Prop}
    (hx : Sat E x P) (hf : ∀ a, P a → Sat E (f a) Q) : Sat E (x >>= f) Q := by
  cases x with
  | error e => exact hx
  | ok a => exact hf a hx

theorem mono {x : FR α} {P Q : α → Prop} (hx : Sat E x P) (h : ∀ a, P a → Q a) : Sat E x Q := by
  cases x with
  | error e => exact hx
  | ok a => exact h a hx

theorem of_ok {x : FR α} {P : α → Prop} (h : ∀ a, x = .ok a → P a) : Sat (fun _ => True) x P := by
  cases x with
  | error e => trivial
  | ok a => exact h a rfl

theorem elim_ok {x : FR α} {P : α → Prop} {a : α} (hx : Sat E x P) (h : x = .ok a) : P a := by
  subst h; exact hx

/-- invariant rule for a monadic fold; the invariant may depend on what is left to do -/
theorem foldlM {γ : Type} {step : α → γ → FR α} (Inv : List γ → α → Prop) :
    ∀ (l : List γ) (a : α), Inv l a → (∀ a c r, Inv (c :: r) a → Sat E (step a c) (Inv r)) →
      Sat E (l.foldlM step a) (Inv [])
  | [], _, h, _ => h
  | c :: r, a, h, hs => by
    rw [List.foldlM_cons]
    exact (hs a c r h).bind fun a' h' => foldlM Inv r a' h' hs

theorem modKey {k : String} {f : Y → FR Y} {m : KVs} {P : KVs → Prop}
    (hn : kvGet k m = none → P m) (hs : ∀ v, kvGet k m = some v → Sat E (f v) fun v' => P (kvSet k v' m)) :
    Sat E (BVM.modKey k f m) P := by
  rw [modKey_eq]
  split
  · exact hn ‹_›
  · exact (hs _ ‹_›).bind fun _ h => h

theorem mapVals {f : String → Y → FR Y} {R : String → Y → Y → Prop} :
    ∀ (m : KVs), (∀ kv ∈ m, Sat E (f kv.1 kv.2) (R kv.1 kv.2)) →
      Sat E (BVM.mapVals f m) fun m' => kvKeys m' = kvKeys m ∧ ∀ kv' ∈ m', ∃ v, (kv'.1, v) ∈ m ∧ R kv'.1 v kv'.2
  | [], _ => ⟨rfl, fun _ h => nomatch h⟩
  | (k, v) :: r, h => by
    rw [BVM.mapVals]
    refine (h _ List.mem_cons_self).bind fun v' hv' => ?_
    refine (mapVals r fun kv hkv => h kv (List.mem_cons_of_mem _ hkv)).bind fun r' ⟨hk, hr⟩ => ?_
    refine ⟨congrArg (k :: ·) hk, fun kv' hkv' => ?_⟩
    rcases List.mem_cons.mp hkv' with rfl | hkv'
    · exact ⟨v, List.mem_cons_self, hv'⟩
    · obtain ⟨v0, h0, h1⟩ := hr kv' hkv'
      exact ⟨v0, List.mem_cons_of_mem _ h0, h1⟩

theorem mapM {f : α → FR β} {P : β → Prop} : ∀ (l : List α), (∀ x ∈ l, Sat E (f x) P) →
    Sat E (l.mapM f) fun ys => ∀ y ∈ ys, P y
  | [], _ => by rw [List.mapM_nil]; exact fun _ h => nomatch h
  | x :: r, h => by
    rw [List.mapM_cons]
    exact (h x List.mem_cons_self).bind fun y hy =>
      (mapM r fun x hx => h x (List.mem_cons_of_mem _ hx)).bind fun ys hys => List.forall_mem_cons.mpr ⟨hy, hys⟩

/-- `modKey` read through lookups: same key list, the other properties untouched, the property itself (when present)
    a result of `f` -/
theorem modKey_get {k : String} {f : Y → FR Y} {m : KVs} {Q : Y → Prop}
    (h : ∀ v, kvGet k m = some v → Sat E (f v) Q) :
    Sat E (BVM.modKey k f m) fun m' => kvKeys m' = kvKeys m ∧ (∀ k2, k2 ≠ k → kvGet k2 m' = kvGet k2 m) ∧
      ∀ v', kvGet k m' = some v' → Q v' := by
  refine Sat.modKey (fun hn => ⟨rfl, fun _ _ => rfl, fun v' hv' => by rw [hn] at hv'; cases hv'⟩) fun v hv =>
    (h v hv).mono fun v' hq => ⟨kvKeys_kvSet_of_get hv, fun k2 hne => ?_, fun v1 hv1 => ?_⟩
  · rw [kvGet_kvSet, if_neg (Ne.symm hne)]
  · rw [kvGet_kvSet, if_pos rfl] at hv1; cases hv1; exact hq

/-- a fold of `modKey` over distinct keys: same key list, the other properties untouched, and each of these
    properties that is present holds a result of its function -/
theorem foldlM_modKey {γ : Type} {step : KVs → γ → FR KVs} {key : γ → String} {F : γ → Y → FR Y}
    (hstep : ∀ m c, step m c = BVM.modKey (key c) (F c) m) (Q : γ → Y → Prop) :
    ∀ (cs : List γ) (m : KVs), (cs.map key).Nodup →
      (∀ c ∈ cs, ∀ v, kvGet (key c) m = some v → Sat E (F c v) (Q c)) →
      Sat E (cs.foldlM step m) fun m1 =>
        kvKeys m1 = kvKeys m ∧ (∀ k, k ∉ cs.map key → kvGet k m1 = kvGet k m) ∧
        ∀ c ∈ cs, ∀ v1, kvGet (key c) m1 = some v1 → Q c v1
  | [], m, _, _ => ⟨rfl, fun _ _ => rfl, nofun⟩
  | c :: r, m, hnd, h => by
    obtain ⟨hk, hnd'⟩ := List.nodup_cons.mp hnd
    rw [List.foldlM_cons, hstep]
    refine (modKey_get (h c List.mem_cons_self)).bind fun m' ⟨s1, s2, s3⟩ => ?_
    -- the keys still to come are other keys, so their properties are as they were
    have hne : ∀ c' ∈ r, key c' ≠ key c := fun c' hc' e => hk (e ▸ List.mem_map_of_mem hc')
    refine (foldlM_modKey hstep Q r m' hnd' fun c' hc' v hv =>
      h c' (List.mem_cons_of_mem _ hc') v (s2 _ (hne c' hc') ▸ hv)).mono fun m1 ⟨i1, i2, i3⟩ =>
        ⟨i1.trans s1, fun k hk' => ?_, fun c' hc' v1 hv1 => ?_⟩
    · rw [List.map_cons, List.mem_cons, not_or] at hk'
      rw [i2 k hk'.2, s2 k hk'.1]
    · rcases List.mem_cons.mp hc' with rfl | hc'
      · exact s3 v1 (i2 _ hk ▸ hv1)
      · exact i3 c' hc' v1 hv1

/-- one pass of the loop over the inclusion paths keeps "the accumulated base is in `G`", if the processed files are
    in `G` and patching keeps `G` -/
theorem inclStep {rec : Stack → Y → FR Y} {W : World} {stack : Stack} {v3 : Bool} {base : Option Y} {p : String}
    {G : Y → Prop} (hnf : E (.includeNotFound p)) (hcy : E (.includeCycle p))
    (hrec : ∀ di c, findInDirs p W.dirs 0 = some (di, c) → (di, p) ∉ stack → Sat E (rec ((di, p) :: stack) c) G)
    (hpatch : ∀ b o, G b → G o → G (patchNode v3 b o)) (hb : ∀ b, base = some b → G b) :
    Sat E (BVM.inclStep rec W stack v3 base p) fun res => ∀ b, res = some b → G b := by
  unfold BVM.inclStep
  split
  · split
    · exact hb
    · exact hnf
  · split
    · exact hcy
    · rename_i hc
      refine (hrec _ _ ‹_› (by simpa using hc)).bind fun ov gov => ?_
      split
      · rintro b ⟨⟩; exact gov
      · rintro b ⟨⟩; exact hpatch _ _ (hb _ rfl) gov

end FR.Sat

end BVM

namespace BVM

/-! ### decidable outcomes (for closed examples) -/

def FR.isOkWith {α : Type} [DecidableEq α] (r : FR α) (x : α) : Bool :=
  match r with | .ok y => decide (y = x) | .error _ => false

def FR.isErr {α : Type} (r : FR α) (e : FErr) : Bool :=
  match r with | .ok _ => false | .error e' => decide (e' = e)

theorem FR.isOkWith_iff {α : Type} [DecidableEq α] (r : FR α) (x : α) : r.isOkWith x = true ↔ r = .ok x := by
  cases r <;> simp [FR.isOkWith]

theorem FR.isErr_iff {α : Type} (r : FR α) (e : FErr) : r.isErr e = true ↔ r = .error e := by
  cases r <;> simp [FR.isErr]

/-- a run that succeeds with a result passing the test `p`: the left side is evaluated, the result need not be written out -/
theorem FR.ok_of_test {α : Type} {x : FR α} {p : α → Bool}
    (h : (match x with | .ok a => p a | .error _ => false) = true) : ∃ a, x = .ok a ∧ p a = true := by
  cases x with
  | ok a => exact ⟨a, rfl, h⟩
  | error e => cases h

end BVM
