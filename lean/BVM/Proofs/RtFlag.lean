/-
  Proofs/RtFlag.lean — the in-tracing-section flag (C16) through the runtime model.

  The flag is raised and restored in brackets: by the opening and the closing function around what
  they write, by a tracing function from its enable test to its return.  `Under f s₀ s` is what holds
  of a state `s` reached from `s₀` by code entered with the flag at `f`: inside a tracing section
  (`f = true`) and between the calls of the public API (`f = false`) alike, so the callbacks are
  walked once for both.
-/
import BVM.Proofs.RtRules
namespace BVM

-- this file uses the model through the rules of Proofs/RtRules.lean only; `rfl` would otherwise unfold the callbacks
attribute [local irreducible] cbEnter cbClock cbFull preambleTs runSer closeBacks setBuf openWrite closeWrite cbOpen cbClose

/-- inside a tracing section: stores and callback entries happen under flag = 1 -/
def PSec : Ev → Prop
  | .cb _ _ f _ => f = true
  | .store _ _ f _ => f = true
  | .ret _ _ _ => False
  | _ => True

/-- what C16 says about every event of a run: stores under flag 1, flag 0 at every API return -/
def PTop : Ev → Prop
  | .store _ _ f _ => f = true
  | .ret _ c _ => c.inTracingSection = false
  | _ => True

theorem PSec.top (e : Ev) (h : PSec e) : PTop e := by
  cases e <;> first | exact h | trivial | exact h.elim

theorem PCb.sec {f : Bool} (hf : f = true) (e : Ev) (h : PCb f e) : PSec e := by
  subst hf
  cases e <;> first | exact h | trivial | exact h.elim

theorem PCb.top {f : Bool} (e : Ev) (h : PCb f e) : PTop e := by
  cases e <;> first | trivial | exact h.elim

theorem PSer.sec {f : Bool} (hf : f = true) (e : Ev) (h : PSer f e) : PSec e := by
  subst hf
  cases e <;> first | exact h | trivial | exact h.elim

/-- the events that code entered with the flag at `f` may log -/
def PUnder : Bool → Ev → Prop
  | true => PSec
  | false => PTop

theorem PSec.under (f : Bool) (e : Ev) (h : PSec e) : PUnder f e := by
  cases f
  · exact h.top e
  · exact h

/-- `s` is reached from `s₀` by code entered with the flag at `f`: what was logged on the way may be logged
    there, and the flag reads `f` again — but a run that halts does so inside a bracket, and leaves the flag up -/
structure Under (f : Bool) (s₀ s : St) : Prop where
  log : Ext (PUnder f) s₀ s
  flag : s.halted = false ∨ f = true → s.c.inTracingSection = f

section
variable {f : Bool} {s₀ s s' : St}

theorem Under.refl (h : s.c.inTracingSection = f) : Under f s s := ⟨Ext.refl _ _, fun _ => h⟩

/-- a step that logs nothing and touches neither the flag nor `halted` -/
theorem Under.upd (h : Under f s₀ s) (hl : s'.log = s.log) (hf : s'.c.inTracingSection = s.c.inTracingSection)
    (hh : s'.halted = s.halted) : Under f s₀ s' :=
  ⟨h.log.trans (Ext.of_log_eq hl), fun hc => hf.trans (h.flag (hh ▸ hc))⟩

theorem Under.ev (h : Under f s₀ s) (e : Ev) (he : PUnder f e) : Under f s₀ (s.ev e) :=
  ⟨h.log.trans (Ext.ev s e he), h.flag⟩

theorem Under.plumb (h : Under f s₀ s) (hp : Plumb s s') : Under f s₀ s' := by
  refine ⟨h.log.trans (hp.log.mono fun e he => ?_), fun hc => hp.flag.trans (h.flag (hp.halted ▸ hc))⟩
  cases f
  · exact he.top
  · exact PCb.sec (h.flag (.inr rfl)) e he

/-- a bracket entered from `s`, where the flag reads `f`: what it logs is logged inside a tracing section, and it
    puts the flag back on the way out unless the run has halted -/
theorem Under.bracket {w : St} (h : Under f s₀ s) (hf : s.c.inTracingSection = f) (hl : Ext PSec s w)
    (hw : w.c.inTracingSection = if w.halted then true else s.c.inTracingSection) : Under f s₀ w := by
  refine ⟨h.log.trans (hl.mono (PSec.under f)), fun hc => ?_⟩
  rw [hw, hf]
  rcases hc with hh | rfl
  · rw [hh]; rfl
  · split <;> rfl

end

variable (cfg : Cfg) (d : DST)

/-! the flag through the writing functions: a serialisation pass keeps it, the last step of the opening and
    of the closing function sets it to `saved` -/

theorem openWrite_flag (args : Args) (ts : Nat) (saved : Bool) (s : St) :
    (openWrite cfg d args ts saved s).c.inTracingSection =
      if (openWrite cfg d args ts saved s).halted then s.c.inTracingSection else saved :=
  openWrite_rule (P₂ := fun s₁ => s₁.c.inTracingSection = s.c.inTracingSection)
    (Q := fun s' => s'.c.inTracingSection = if s'.halted then s.c.inTracingSection else saved) s
    (runSer_step _ _).flag (fun _ h hh => h.trans (if_pos hh).symm) (fun _ h _ => h)
    fun _ _ hh => by simp [hh]

theorem closeWrite_flag (ts : Nat) (saved : Bool) (s : St) :
    (closeWrite cfg d ts saved s).c.inTracingSection =
      if (closeWrite cfg d ts saved s).halted then s.c.inTracingSection else saved :=
  closeWrite_rule (P₂ := fun s₁ => s₁.c.inTracingSection = s.c.inTracingSection)
    (Q := fun s' => s'.c.inTracingSection = if s'.halted then s.c.inTracingSection else saved) s
    (closeBacks_step cfg d ts _).flag (fun _ h hh => h.trans (if_pos hh).symm) (fun _ h _ => h)
    fun _ _ hh => by simp [hh]

theorem traceStore_flag (e : ERT) (args : Args) (s : St) :
    (traceStore cfg d e args s).c.inTracingSection = s.c.inTracingSection :=
  traceStore_rule (P₂ := fun s₁ => s₁.c.inTracingSection = s.c.inTracingSection) s (runSer_step _ s).flag
    (fun _ h _ => h) (fun _ h _ => h) fun _ h _ => h

/-! the flag through the control structure (Proofs/RtRules.lean) -/

theorem callbacks_flag (f : Bool) (s₀ : St) :
    (∀ s, Under f s₀ s → Under f s₀ (cbOpen cfg d s)) ∧ (∀ s, Under f s₀ s → Under f s₀ (cbClose cfg d s)) := by
  -- past the `halted` test of the callback the flag does read `f`
  let L : St → Prop := fun s => Under f s₀ s ∧ s.c.inTracingSection = f
  have hpre : ∀ ft s s', Under f s₀ s → s.halted = false → Plumb s s' → L (preambleTs d ft s').2 := fun ft s s' h hh hp =>
    have hp := hp.trans (preambleTs_plumb d ft s')
    ⟨h.plumb hp, hp.flag.trans (h.flag (.inl hh))⟩
  have hskip : ∀ s, L s → s.c.inTracingSection = false → Under f s₀ (s.setFlag false) := fun s h hf =>
    ⟨h.1.log, fun _ => hf.symm.trans h.2⟩
  exact ⟨cbOpen_rule (G := fun _ => L) (Q₁ := Under f s₀) (fun _ h _ => h) (hpre _) (fun _ s h _ => hskip s h)
      (fun _ _ h _ => h.1)
      (fun args ts s h _ _ => h.1.bracket h.2 (openWrite_logs (s.setFlag true) (PSer.sec rfl) trivial fun _ => trivial)
        (openWrite_flag cfg d args ts _ (s.setFlag true)))
      fun _ _ h => h.plumb,
    cbClose_rule (G := fun _ => L) (Q₁ := Under f s₀) (fun _ h _ => h) (hpre _) (fun _ s h _ => hskip s h)
      (fun _ _ h _ => h.1)
      (fun ts s h _ => h.1.bracket h.2 (closeWrite_logs (s.setFlag true) (PSer.sec rfl) trivial fun _ _ _ => trivial)
        (closeWrite_flag cfg d ts _ (s.setFlag true)))
      fun w n => deliverAndSwap_rule (P₁ := Under f s₀) (fun _ h _ => h)
        (fun _ h => h.ev _ (PSec.under f _ trivial))
        (fun b s h _ => h.upd (setBuf_frame b s).2.2.1 (congrArg Ctx.inTracingSection (setBuf_frame b s).1 :)
          (setBuf_frame b s).2.2.2)
        fun _ _ h => h.plumb⟩

theorem withUseCur_flag {f : Bool} {s₀ : St} {g : St → St} (hg : ∀ s, Under f s₀ s → Under f s₀ (g s)) :
    ∀ s, Under f s₀ s → Under f s₀ (withUseCur g s) :=
  withUseCur_rule (fun _ h => h.upd rfl rfl rfl) hg fun _ h => h.upd rfl rfl rfl

theorem Under.noSpace {f : Bool} {s₀ s : St} (h : Under f s₀ s) (cf : Bool) : Under f s₀ (noSpace cf s).2 :=
  (h.ev (.discard cf) (PSec.under f _ trivial)).upd rfl rfl rfl

theorem reserve_flag (erSize emptySize : Nat) (s₀ : St) :
    ∀ s, Under true s₀ s → Under true s₀ (reserve cfg d erSize emptySize s).2 := fun s h =>
  reserve_rule (R := fun r => Under true s₀ r.2) (fun s h => h.plumb (cbFull_plumb s))
    (withUseCur_flag (callbacks_flag cfg d true s₀).1) (withUseCur_flag (callbacks_flag cfg d true s₀).2)
    (fun _ h _ => (h.plumb (cbFull_plumb _)).noSpace false) (fun _ h _ => h) (fun _ h => h) s h fun _ => h.noSpace true

/-- a tracing function past its enable test, entered with the flag up: all it logs is logged under flag 1, and it
    returns with the flag down -/
theorem traceEnabled_flag (e : ERT) (args : Args) (s₀ : St) : ∀ s, Under true s₀ s →
    Ext PSec s₀ (traceEnabled cfg d e args s) ∧
    ((traceEnabled cfg d e args s).halted = false → (traceEnabled cfg d e args s).c.inTracingSection = false) :=
  traceEnabled_rule (X := Under true s₀)
    (J := fun s => Ext PSec s₀ s ∧ (s.halted = false → s.c.inTracingSection = false))
    (fun s h => h.plumb (cbFull_plumb s))
    (withUseCur_flag (callbacks_flag cfg d true s₀).1) (withUseCur_flag (callbacks_flag cfg d true s₀).2)
    (fun cf _ h => h.noSpace cf) (fun _ h _ => h)
    (fun s h _ _ => ⟨h.log.trans (traceStore_logs s (PSer.sec (h.flag (.inr rfl))) (fun _ => trivial) fun _ _ => trivial),
      fun _ => (traceStore_flag cfg d e args s).trans (h.flag (.inr rfl))⟩)
    (fun s h _ => (callbacks_flag cfg d true s₀).2 s h)
    (fun s h hh => ⟨h.log, fun hc => nomatch hh.symm.trans hc⟩) fun s h _ => ⟨h.log, fun _ => rfl⟩

/-- C16, second and third clause: from the test of the enable flag on, everything a tracing call logs
    (callback entries, stores) happens under flag = 1 — whatever the state it was entered in; entered with the
    flag down, it returns with the flag down. -/
theorem traceBody_flag (e : ERT) (args : Args) (s : St) :
    Ext PSec s (traceBody cfg d e args s) ∧ (s.c.inTracingSection = false →
      (traceBody cfg d e args s).halted = false → (traceBody cfg d e args s).c.inTracingSection = false) :=
  traceBody_rule (J₁ := (· = s)) (I := Under true s)
    (J := fun s' => Ext PSec s s' ∧ (s.c.inTracingSection = false → s'.halted = false → s'.c.inTracingSection = false))
    (fun _ h _ => h ▸ ⟨Ext.ev _ _ trivial, fun hf _ => hf⟩)
    (fun _ h _ => h ▸ ⟨Ext.ev _ (.traceCall e.name true) trivial, fun _ => rfl⟩)
    (fun s' h => (traceEnabled_flag cfg d e args s s' h).imp id fun h _ => h) s rfl

theorem trace_flag (e : ERT) (args : Args) (s₀ : St) :
    ∀ s, Under false s₀ s → Under false s₀ (trace cfg d e args s) := by
  -- from the `halted` test of the tracing function to its enable test the flag does read 0
  let L : St → Prop := fun s => Under false s₀ s ∧ s.c.inTracingSection = false
  exact trace_rule (J₁ := L)
    (fun s h hh => traceClock_rule (P := L) (Q := L) (fun _ h _ => h)
      (fun clk s h _ => ⟨(h.1.plumb (cbClock_plumb clk s)).upd rfl rfl rfl, (cbClock_plumb clk s).flag.trans h.2⟩)
      s ⟨h, h.flag (.inl hh)⟩)
    fun s h => ⟨h.1.log.trans ((traceBody_flag cfg d e args s).1.mono PSec.top),
      fun hc => (traceBody_flag cfg d e args s).2 h.2 (hc.resolve_right Bool.false_ne_true)⟩

/-- C16 for a whole history: stores under flag 1, flag 0 at every API return -/
theorem runOps_flag (ops : List Op) (s₀ : St) : ∀ s, Under false s₀ s → Under false s₀ (runOps cfg d ops s) :=
  runOps_rule (callbacks_flag cfg d false s₀) (fun _ args e _ _ _ => trace_flag cfg d e args s₀)
    (fun _ _ _ h => h.upd rfl rfl rfl) fun _ _ h hh => h.ev _ (h.flag (.inl hh))

theorem runOps_log_top (ops : List Op) (bytes : Nat) (p : Plat) :
    ∀ e ∈ (runOps cfg d ops (rtInit bytes p)).log, PTop e :=
  Ext.all (runOps_flag cfg d ops _ _ (.refl rfl)).log (by simp [rtInit])

end BVM
