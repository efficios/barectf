/-
  Proofs/RtRules.lean — the control structure of Model/Rt.lean, walked once.

  Every compound function of the runtime model gets one rule: if its parts take `P` into `Q` (for
  arbitrary predicates on states), so does the whole.  The invariants of the other Rt* files are then
  proved on the parts only.  Callback entries and exits, clock reads and back-end queries change
  nothing any invariant looks at; what they do change is said once, by `Plumb`.
-/
import BVM.Proofs.RtSimp
namespace BVM

/-- the events of a callback's entry and exit, of a clock read and of a back-end answer; `f` is the
    value of the in-tracing-section flag they are logged under -/
def PCb (f : Bool) : Ev → Prop
  | .cb _ _ f' _ => f' = f
  | .cbExit _ _ => True
  | .clockRead _ => True
  | .fullAnswer _ => True
  | _ => False

/-- what entering or leaving a platform callback, reading the clock and asking the back end change:
    of the context only `is_tracing_enabled` (by a scripted toggle), of the platform state neither the
    scripts of toggles, buffer swaps and user arguments; the clock does not go back -/
structure Plumb (s s' : St) : Prop where
  ctx : s'.c = { s.c with isTracingEnabled := s'.c.isTracingEnabled }
  en : s.p.toggles = [] → s'.c.isTracingEnabled = s.c.isTracingEnabled
  buf : s'.buf = s.buf
  halted : s'.halted = s.halted
  clock : s.p.clock ≤ s'.p.clock
  toggles : s'.p.toggles = s.p.toggles
  setBufs : s'.p.setBufs = s.p.setBufs
  openArgs : s'.p.openArgs = s.p.openArgs
  log : Ext (PCb s.c.inTracingSection) s s'

theorem Plumb.refl (s : St) : Plumb s s := ⟨rfl, fun _ => rfl, rfl, rfl, Nat.le_refl _, rfl, rfl, rfl, Ext.refl _ _⟩

theorem Plumb.flag {s s' : St} (h : Plumb s s') : s'.c.inTracingSection = s.c.inTracingSection :=
  (congrArg Ctx.inTracingSection h.ctx :)

theorem Plumb.trans {a b c : St} (h₁ : Plumb a b) (h₂ : Plumb b c) : Plumb a c :=
  ⟨by rw [h₂.ctx, h₁.ctx], fun h => (h₂.en (h₁.toggles.trans h)).trans (h₁.en h), h₂.buf.trans h₁.buf,
   h₂.halted.trans h₁.halted, Nat.le_trans h₁.clock h₂.clock, h₂.toggles.trans h₁.toggles,
   h₂.setBufs.trans h₁.setBufs, h₂.openArgs.trans h₁.openArgs, h₁.log.trans (h₁.flag ▸ h₂.log)⟩

theorem Plumb.setPlat (s : St) (p : Plat) (hc : s.p.clock ≤ p.clock) (ht : p.toggles = s.p.toggles)
    (hb : p.setBufs = s.p.setBufs) (ha : p.openArgs = s.p.openArgs) : Plumb s (s.setPlat p) :=
  ⟨rfl, fun _ => rfl, rfl, rfl, hc, ht, hb, ha, Ext.of_log_eq rfl⟩

theorem Plumb.ev (s : St) (e : Ev) (h : PCb s.c.inTracingSection e) : Plumb s (s.ev e) :=
  ⟨rfl, fun _ => rfl, rfl, rfl, Nat.le_refl _, rfl, rfl, rfl, Ext.ev s e h⟩

theorem cbEnter_plumb (k : CbKind) (s : St) : Plumb s (cbEnter k s) := by
  have h : Plumb s ((s.ev (.cb k s.p.cbSeq s.c.inTracingSection s.c.packetIsOpen)).setPlat
      { s.p with cbSeq := s.p.cbSeq + 1 }) :=
    (Plumb.ev s (.cb _ _ _ _) rfl).trans (Plumb.setPlat _ _ (Nat.le_refl _) rfl rfl rfl)
  unfold cbEnter
  simp only
  split
  · rename_i b hb
    refine h.trans ⟨rfl, fun ht => ?_, rfl, rfl, Nat.le_refl _, rfl, rfl, rfl, Ext.of_log_eq rfl⟩
    have hb : s.p.toggles.lookup s.p.cbSeq = some b := hb
    rw [show s.p.toggles = [] from ht] at hb
    cases hb
  · exact h

theorem cbClock_plumb (clk : Clock) (s : St) : Plumb s (cbClock clk s).2 := by
  have h1 := cbEnter_plumb .clock s
  unfold cbClock
  simp only
  generalize cbEnter .clock s = s1 at h1
  exact h1.trans ⟨rfl, fun _ => rfl, rfl, rfl, Nat.le_add_right _ _, rfl, rfl, rfl,
    (Ext.of_log_eq (s' := s1.setPlat _) rfl).trans ((Ext.ev _ (.clockRead _) trivial).trans (Ext.ev _ (.cbExit _ _) trivial))⟩

theorem cbFull_plumb (s : St) : Plumb s (cbFull s).2 := by
  have h1 := cbEnter_plumb .full s
  unfold cbFull
  simp only
  generalize cbEnter .full s = s1 at h1
  exact h1.trans ⟨rfl, fun _ => rfl, rfl, rfl, Nat.le_refl _, rfl, rfl, rfl,
    (Ext.of_log_eq (s' := s1.setPlat _) rfl).trans ((Ext.ev _ (.fullAnswer _) trivial).trans (Ext.ev _ (.cbExit _ _) trivial))⟩

theorem cbEnter_log (k : CbKind) (s : St) :
    (cbEnter k s).log = .cb k s.p.cbSeq s.c.inTracingSection s.c.packetIsOpen :: s.log := by
  unfold cbEnter
  simp only
  split <;> rfl

theorem cbClock_log (clk : Clock) (s : St) :
    (cbClock clk s).2.log = .cbExit .clock s.c.inTracingSection :: .clockRead (cbClock clk s).1 ::
      .cb .clock s.p.cbSeq s.c.inTracingSection s.c.packetIsOpen :: s.log := by
  have h1 := cbEnter_log .clock s
  have h2 := (cbEnter_plumb .clock s).flag
  unfold cbClock
  simp only
  generalize cbEnter .clock s = s1 at h1 h2
  show Ev.cbExit .clock s1.c.inTracingSection :: _ :: s1.log = _
  rw [h1, h2]

theorem cbFull_log (s : St) :
    (cbFull s).2.log = .cbExit .full s.c.inTracingSection :: .fullAnswer (cbFull s).1 ::
      .cb .full s.p.cbSeq s.c.inTracingSection s.c.packetIsOpen :: s.log := by
  have h1 := cbEnter_log .full s
  have h2 := (cbEnter_plumb .full s).flag
  unfold cbFull
  simp only
  generalize cbEnter .full s = s1 at h1 h2
  show Ev.cbExit .full s1.c.inTracingSection :: _ :: s1.log = _
  rw [h1, h2]

theorem preambleTs_plumb (d : DST) (ft : Option Scalar) (s : St) : Plumb s (preambleTs d ft s).2 := by
  unfold preambleTs
  split
  · split
    · exact Plumb.refl s
    · exact cbClock_plumb _ s
  · exact Plumb.refl s

/-- the events of a serialisation pass: stores, logged under the flag `f`, and `oob` -/
def PSer (f : Bool) : Ev → Prop
  | .store _ _ f' _ => f' = f
  | .oob => True
  | _ => False

/-- what a serialisation pass and the write-backs of the closing function change: buffer, position and saved offsets,
    whether the run has halted; the stores are logged -/
structure SerStep (s s' : St) : Prop where
  ctx : s'.c = { s.c with at_ := s'.c.at_, saved := s'.c.saved }
  p : s'.p = s.p
  log : Ext (PSer s.c.inTracingSection) s s'

theorem SerStep.refl (s : St) : SerStep s s := ⟨rfl, rfl, Ext.refl _ _⟩

theorem SerStep.flag {s s' : St} (h : SerStep s s') : s'.c.inTracingSection = s.c.inTracingSection :=
  (congrArg Ctx.inTracingSection h.ctx :)

theorem SerStep.trans {a b c : St} (h₁ : SerStep a b) (h₂ : SerStep b c) : SerStep a c :=
  ⟨by rw [h₂.ctx, h₁.ctx], h₂.p.trans h₁.p, h₁.log.trans (h₁.flag ▸ h₂.log)⟩

theorem runSer_step (f : SerSt → SerSt) (s : St) : SerStep s (runSer f s) := by
  unfold runSer installSer
  simp only
  generalize f _ = r
  have hst : SerStep s (s.setSer r.buf r.at_ r.saved
      (r.stores.map fun (o, n) => Ev.store o n s.c.inTracingSection s.c.packetIsOpen)) := by
    refine ⟨rfl, rfl, _, rfl, fun e he => ?_⟩
    obtain ⟨x, _, rfl⟩ := List.mem_map.mp he
    rfl
  split
  · exact hst.trans ⟨rfl, rfl, Ext.ev _ .oob trivial⟩
  · exact hst

theorem writeBack_step (env : SerEnv) (d : DST) (name : String) (v : Int) (s : St) :
    SerStep s (writeBack env d name v s) := by
  unfold writeBack
  split
  · exact SerStep.refl s
  · split
    · exact SerStep.refl s
    · simp only
      refine SerStep.trans ?_ (runSer_step _ _)
      exact ⟨rfl, rfl, Ext.of_log_eq rfl⟩

/-- the write-backs of the closing function, in order: end timestamp, content size, discarded counter -/
theorem closeBacks_rule {P : St → Prop} (cfg : Cfg) (d : DST) (ts : Nat) (s : St)
    (hwb : ∀ name v s', name ∈ ["timestamp_end", "content_size", "events_discarded"] → P s' →
      P (writeBack (serEnvOf cfg d 0 ts s.c) d name v s')) (h : P s) : P (closeBacks cfg d ts s) := by
  unfold closeBacks
  simp only
  have h1 : P (if d.feat.tsEnd.isSome = true then writeBack (serEnvOf cfg d 0 ts s.c) d "timestamp_end" ts s else s) := by
    split
    · exact hwb _ _ _ (by simp) h
    · exact h
  generalize (if d.feat.tsEnd.isSome = true then writeBack _ d "timestamp_end" ts s else s) = s1 at h1
  have h2 := hwb "content_size" s1.c.contentSize s1 (by simp) h1
  generalize writeBack _ d "content_size" s1.c.contentSize s1 = s2 at h2
  split
  · exact hwb _ _ _ (by simp) h2
  · exact h2

theorem closeBacks_step (cfg : Cfg) (d : DST) (ts : Nat) (s : St) : SerStep s (closeBacks cfg d ts s) :=
  closeBacks_rule cfg d ts s (fun _ _ _ _ h => h.trans (writeBack_step _ _ _ _ _)) (SerStep.refl s)

/-- a buffer swap changes the buffer, the packet size and (when the packet is full) the position -/
theorem setBuf_frame (bytes : Nat) (s : St) :
    (setBuf bytes s).c = { s.c with at_ := (setBuf bytes s).c.at_, packetSize := (setBuf bytes s).c.packetSize } ∧
    (setBuf bytes s).p = s.p ∧ (setBuf bytes s).log = s.log ∧ (setBuf bytes s).halted = s.halted := by
  unfold setBuf
  simp only
  split <;> exact ⟨rfl, rfl, rfl, rfl⟩

/-! ### the writing functions: one rule each, and what they log -/

/-- the serialisation step of a tracing function: `traceWrite` up to the `recDone` ghost event -/
def traceStore (cfg : Cfg) (d : DST) (e : ERT) (args : Args) (s : St) : St :=
  let s1 := runSer (serRecord (serEnvOf cfg d e.id s.c.curLastEventTs s.c) d e args) s
  if s1.halted then s1 else
  let s2 := if d.feat.erTs.isSome then s1.ev (.tsWrite "rec" s1.c.curLastEventTs) else s1
  s2.ev (.recDone e.name s.c.at_ s2.c.at_)

section writes
variable {cfg : Cfg} {d : DST} {P₂ Q : St → Prop}

/-- how each of the three writing functions ends: after the serialisation, at `s₁`, a halted run is left as it is;
    otherwise the ghost event `x` for the timestamp field, if the stream type has it (`c`), then the bookkeeping `mark` -/
theorem write_end {c : Prop} [Decidable c] {x : Ev} {mark : St → St} {s₁ : St} (hser : P₂ s₁)
    (hhalt : ∀ s, P₂ s → s.halted = true → Q s) (hts : c → P₂ (s₁.ev x))
    (hmark : ∀ s, P₂ s → s.halted = false → Q (mark s)) :
    Q (if s₁.halted = true then s₁ else mark (if c then s₁.ev x else s₁)) := by
  by_cases hh : s₁.halted = true
  · rw [if_pos hh]
    exact hhalt s₁ hser hh
  · rw [if_neg hh]
    by_cases hc : c
    · rw [if_pos hc]
      exact hmark _ (hts hc) (eq_false_of_ne_true hh)
    · rw [if_neg hc]
      exact hmark s₁ hser (eq_false_of_ne_true hh)

/-- `openWrite` at `s`: `P₂` holds once header and context are serialised and is kept by the timestamp event; from it
    `Q` follows for a halted run, and for the state marked open -/
theorem openWrite_rule {args : Args} {ts : Nat} {saved : Bool} (s : St)
    (hser : P₂ (runSer (fun st => serRoot (serEnvOf cfg d 0 ts (s.setAt 0).c) "pc" d.pcOp args
      (serRoot (serEnvOf cfg d 0 ts (s.setAt 0).c) "ph" (DST.phOp cfg) [] st)) (s.setAt 0)))
    (hhalt : ∀ s, P₂ s → s.halted = true → Q s)
    (hts : ∀ s, P₂ s → d.feat.tsBegin.isSome = true → P₂ (s.ev (.tsWrite "begin" ts)))
    (hmark : ∀ s, P₂ s → s.halted = false →
      Q { s with c := { s.c with offContent := s.c.at_, packetIsOpen := true, inTracingSection := saved }
                 log := .opened s.c.at_ :: s.log }) :
    Q (openWrite cfg d args ts saved s) := by
  refine write_end (mark := fun s => (((s.ev (.opened s.c.at_)).setOffContent s.c.at_).setOpen true).setFlag saved)
    hser hhalt (hts _ hser) fun s₁ h hn => ?_
  unfold St.setFlag St.setOpen St.setOffContent St.ev
  exact hmark s₁ h hn

/-- `closeWrite` at `s`: `P₂` holds once the content size is saved and the write-backs are done and is kept by the
    timestamp event; from it `Q` follows for a halted run, and for the state marked closed -/
theorem closeWrite_rule {ts : Nat} {saved : Bool} (s : St)
    (hbacks : P₂ (closeBacks cfg d ts (s.setContentSize s.c.at_)))
    (hhalt : ∀ s, P₂ s → s.halted = true → Q s)
    (hts : ∀ s, P₂ s → d.feat.tsEnd.isSome = true → P₂ (s.ev (.tsWrite "end" ts)))
    (hmark : ∀ s, P₂ s → s.halted = false →
      Q { s with
          c := { s.c with
                 at_ := s.c.packetSize, packetIsOpen := false, inTracingSection := saved
                 sequenceNumber := if d.feat.seqNum.isSome then u32 (s.c.sequenceNumber + 1) else s.c.sequenceNumber }
          log := .closed s.c.contentSize s.c.sequenceNumber s.c.eventsDiscarded :: s.log }) :
    Q (closeWrite cfg d ts saved s) := by
  unfold closeWrite closeFinish
  refine write_end (mark := fun t =>
      let t := t.ev (.closed t.c.contentSize t.c.sequenceNumber t.c.eventsDiscarded)
      let t := (t.setAt t.c.packetSize).setOpen false
      let t := if d.feat.seqNum.isSome then t.setSeqNum (u32 (t.c.sequenceNumber + 1)) else t
      t.setFlag saved) hbacks hhalt (hts _ hbacks) fun s₁ h hn => ?_
  have := hmark s₁ h hn
  unfold St.setFlag St.setSeqNum St.setOpen St.setAt St.ev
  simp only
  split
  · simpa only [if_pos ‹_›] using this
  · simpa only [if_neg ‹_›] using this

/-- `traceStore` at `s`: `P₂` holds once the record is serialised and is kept by the timestamp event; from it `Q`
    follows for a halted run, and for the state with the record logged -/
theorem traceStore_rule {e : ERT} {args : Args} (s : St)
    (hser : P₂ (runSer (serRecord (serEnvOf cfg d e.id s.c.curLastEventTs s.c) d e args) s))
    (hhalt : ∀ s₁, P₂ s₁ → s₁.halted = true → Q s₁)
    (hts : ∀ s₁, P₂ s₁ → d.feat.erTs.isSome = true → P₂ (s₁.ev (.tsWrite "rec" s₁.c.curLastEventTs)))
    (hrec : ∀ s₁, P₂ s₁ → s₁.halted = false → Q (s₁.ev (.recDone e.name s.c.at_ s₁.c.at_))) :
    Q (traceStore cfg d e args s) :=
  write_end (mark := fun s₁ => s₁.ev (.recDone e.name s.c.at_ s₁.c.at_)) hser hhalt (hts _ hser) hrec

variable {P : Ev → Prop}

theorem openWrite_logs {args : Args} {ts : Nat} {saved : Bool} (s : St)
    (hser : ∀ e, PSer s.c.inTracingSection e → P e) (hts : P (.tsWrite "begin" ts)) (hop : ∀ a, P (.opened a)) :
    Ext P s (openWrite cfg d args ts saved s) :=
  openWrite_rule (P₂ := Ext P s) s
    ((Ext.of_log_eq (s' := s.setAt 0) rfl).trans ((runSer_step _ _).log.mono hser)) (fun _ h _ => h)
    (fun s₁ h _ => h.trans (Ext.ev s₁ _ hts)) fun s₁ h _ => h.trans ((Ext.ev s₁ _ (hop _)).trans (Ext.of_log_eq rfl))

theorem closeWrite_logs {ts : Nat} {saved : Bool} (s : St)
    (hser : ∀ e, PSer s.c.inTracingSection e → P e) (hts : P (.tsWrite "end" ts)) (hcl : ∀ a b c, P (.closed a b c)) :
    Ext P s (closeWrite cfg d ts saved s) :=
  closeWrite_rule (P₂ := Ext P s) s
    ((Ext.of_log_eq (s' := s.setContentSize s.c.at_) rfl).trans ((closeBacks_step cfg d ts _).log.mono hser))
    (fun _ h _ => h) (fun s₁ h _ => h.trans (Ext.ev s₁ _ hts))
    fun s₁ h _ => h.trans ((Ext.ev s₁ _ (hcl _ _ _)).trans (Ext.of_log_eq rfl))

theorem traceStore_logs {e : ERT} {args : Args} (s : St)
    (hser : ∀ x, PSer s.c.inTracingSection x → P x) (hts : ∀ v, P (.tsWrite "rec" v))
    (hrec : ∀ a b, P (.recDone e.name a b)) : Ext P s (traceStore cfg d e args s) :=
  traceStore_rule (P₂ := Ext P s) s ((runSer_step _ s).log.mono hser) (fun _ h _ => h)
    (fun s₁ h _ => h.trans (Ext.ev s₁ _ (hts _))) fun s₁ h _ => h.trans (Ext.ev s₁ _ (hrec _ _))

end writes

/-! ### rules: a compound function takes `P` into `Q` if its parts do -/

section rules
variable {cfg : Cfg} {d : DST} {P Q : St → Prop}


/-- the argument lists the platform's open callback may pass -/
def openArgsOf (oa : List Args) : List Args := if oa.isEmpty then [[]] else oa

theorem openArgsNow_mem (s : St) : s.openArgsNow ∈ openArgsOf s.p.openArgs := by
  unfold St.openArgsNow openArgsOf
  cases hoa : s.p.openArgs with
  | nil => simp
  | cons a as =>
    simp only [List.isEmpty_cons, Bool.false_eq_true, if_false]
    have hlt : s.p.openCount % (a :: as).length < (a :: as).length := Nat.mod_lt _ (by simp)
    rw [List.getD_eq_getElem?_getD, List.getElem?_eq_getElem hlt]
    exact List.getElem_mem hlt

/-- the platform's open callback.  Up to the opening function's two guards all is plumbing: `G ts` holds there, `ts` being
    the function's timestamp local.  Then the call is ignored (tracing disabled, outside a tracing section), has nothing to
    do (a packet is open), or writes packet header and context with the flag raised; `Q₁` holds when it returns -/
theorem cbOpen_rule {G : Nat → St → Prop} {Q₁ : St → Prop}
    (hh : ∀ s, P s → s.halted = true → Q s)
    (hpre : ∀ s s', P s → s.halted = false → Plumb s s' →
      G (preambleTs d d.feat.tsBegin s').1 (preambleTs d d.feat.tsBegin s').2)
    (hskip : ∀ ts s, G ts s → s.c.isTracingEnabled = false → s.c.inTracingSection = false → Q₁ (s.setFlag false))
    (hopen : ∀ ts s, G ts s → s.c.packetIsOpen = true → Q₁ s)
    (hwrite : ∀ args ts s, G ts s → s.c.packetIsOpen = false → args ∈ openArgsOf s.p.openArgs →
      Q₁ (openWrite cfg d args ts s.c.inTracingSection (s.setFlag true)))
    (hout : ∀ s s', Q₁ s → Plumb s s' → Q s') : ∀ s, P s → Q (cbOpen cfg d s) := by
  intro s hp
  unfold cbOpen
  by_cases hs : s.halted = true
  · rw [if_pos hs]
    exact hh s hp hs
  · rw [if_neg hs]
    have h0 := cbEnter_plumb .open_ s
    generalize cbEnter .open_ s = s0 at h0
    have h1 : Plumb s s0.bumpOpen := h0.trans (Plumb.setPlat _ _ (Nat.le_refl _) rfl rfl rfl)
    have ha : s0.openArgsNow ∈ openArgsOf s0.bumpOpen.p.openArgs := openArgsNow_mem s0
    refine hout _ _ ?_ (Plumb.ev _ (.cbExit _ _) trivial)
    generalize s0.openArgsNow = args at ha
    generalize s0.bumpOpen = s1 at h1 ha
    have hg := hpre s s1 hp (eq_false_of_ne_true hs) h1
    rw [← (preambleTs_plumb d d.feat.tsBegin s1).openArgs] at ha
    unfold openPacket
    rw [if_neg (h1.halted ▸ hs)]
    generalize preambleTs d d.feat.tsBegin s1 = r at hg ha
    unfold openGuarded
    simp only
    split
    · rename_i h
      simp only [Bool.and_eq_true, Bool.not_eq_true'] at h
      exact hskip _ _ hg h.1 h.2
    · split
      · exact hopen _ _ hg ‹_›
      · rename_i h
        exact hwrite _ _ _ hg (by simpa using h) ha

theorem cbOpen_halted {s : St} (h : s.halted = true) : cbOpen cfg d s = s := by
  unfold cbOpen
  rw [if_pos h]

theorem cbClose_halted {s : St} (h : s.halted = true) : cbClose cfg d s = s := by
  unfold cbClose
  rw [if_pos h]

theorem deliverAndSwap_rule {P₁ : St → Prop} {w : Bool} {n : Nat}
    (hh : ∀ s, P s → s.halted = true → Q s)
    (hdel : ∀ s, P s → P₁ (s.ev (.deliver s.buf w s.c.packetIsOpen)))
    (hswap : ∀ bytes s, P₁ s → (n, bytes) ∈ s.p.setBufs → P₁ (setBuf bytes s))
    (hout : ∀ s s', P₁ s → Plumb s s' → Q s') : ∀ s, P s → Q (deliverAndSwap w n s) := by
  intro s hp
  unfold deliverAndSwap
  split
  · exact hh s hp ‹_›
  · simp only
    have h1 := hdel s hp
    generalize s.ev (.deliver s.buf w s.c.packetIsOpen) = s1 at h1
    split
    · rename_i bytes hb
      obtain ⟨l1, l2, he, _⟩ := List.lookup_eq_some_iff.mp hb
      exact hout _ _ (hswap bytes s1 h1 (by rw [he]; simp)) (Plumb.ev _ (.cbExit _ _) trivial)
    · exact hout _ _ h1 (Plumb.ev _ (.cbExit _ _) trivial)

/-- the platform's close callback: as `cbOpen_rule` up to the closing function's return, where `Q₁` holds; then the
    delivery -/
theorem cbClose_rule {G : Nat → St → Prop} {Q₁ : St → Prop}
    (hh : ∀ s, P s → s.halted = true → Q s)
    (hpre : ∀ s s', P s → s.halted = false → Plumb s s' →
      G (preambleTs d d.feat.tsEnd s').1 (preambleTs d d.feat.tsEnd s').2)
    (hskip : ∀ ts s, G ts s → s.c.isTracingEnabled = false → s.c.inTracingSection = false → Q₁ (s.setFlag false))
    (hclosed : ∀ ts s, G ts s → s.c.packetIsOpen = false → Q₁ s)
    (hwrite : ∀ ts s, G ts s → s.c.packetIsOpen = true → Q₁ (closeWrite cfg d ts s.c.inTracingSection (s.setFlag true)))
    (hdel : ∀ w n s, Q₁ s → Q (deliverAndSwap w n s)) : ∀ s, P s → Q (cbClose cfg d s) := by
  intro s hp
  unfold cbClose
  by_cases hs : s.halted = true
  · rw [if_pos hs]
    exact hh s hp hs
  · rw [if_neg hs]
    have h0 := cbEnter_plumb .close s
    generalize cbEnter .close s = s0 at h0
    have h1 : Plumb s s0.bumpClose := h0.trans (Plumb.setPlat _ _ (Nat.le_refl _) rfl rfl rfl)
    refine hdel _ _ _ ?_
    generalize s0.bumpClose = s1 at h1
    have hg := hpre s s1 hp (eq_false_of_ne_true hs) h1
    unfold closePacket
    rw [if_neg (h1.halted ▸ hs)]
    generalize preambleTs d d.feat.tsEnd s1 = r at hg
    unfold closeGuarded
    simp only
    split
    · rename_i h
      simp only [Bool.and_eq_true, Bool.not_eq_true'] at h
      exact hskip _ _ hg h.1 h.2
    · split
      · rename_i h
        exact hclosed _ _ hg (by simpa using h)
      · rename_i h
        exact hwrite _ _ hg (by simpa using h)

/-- a predicate that the plumbing and the flag do not touch is kept by the two callbacks if the two writing functions,
    the delivery and a buffer swap keep it -/
theorem callbacks_keep {I : St → Prop}
    (hpl : ∀ s s', I s → Plumb s s' → I s')
    (hfl : ∀ s b, I s → I (s.setFlag b))
    (how : ∀ args ts saved s, I s → s.c.packetIsOpen = false → args ∈ openArgsOf s.p.openArgs →
      I (openWrite cfg d args ts saved s))
    (hcw : ∀ ts saved s, I s → s.c.packetIsOpen = true → I (closeWrite cfg d ts saved s))
    (hdl : ∀ w s, I s → I (s.ev (.deliver s.buf w s.c.packetIsOpen)))
    (hsb : ∀ n bytes s, I s → (n, bytes) ∈ s.p.setBufs → I (setBuf bytes s)) :
    (∀ s, I s → I (cbOpen cfg d s)) ∧ (∀ s, I s → I (cbClose cfg d s)) :=
  have hpre : ∀ ft s s', I s → s.halted = false → Plumb s s' → I (preambleTs d ft s').2 := fun ft _ s' h _ hp =>
    hpl _ _ h (hp.trans (preambleTs_plumb d ft s'))
  ⟨cbOpen_rule (G := fun _ => I) (Q₁ := I) (fun _ h _ => h) (hpre _) (fun _ s h _ _ => hfl s false h) (fun _ _ h _ => h)
      (fun args ts s h hc ha => how args ts _ _ (hfl s true h) hc ha) hpl,
   cbClose_rule (G := fun _ => I) (Q₁ := I) (fun _ h _ => h) (hpre _) (fun _ s h _ _ => hfl s false h) (fun _ _ h _ => h)
      (fun ts s h ho => hcw ts _ _ (hfl s true h) ho)
      fun w n => deliverAndSwap_rule (P₁ := I) (fun _ h _ => h) (hdl w) (hsb n) hpl⟩

theorem withUseCur_rule {P₁ Q₁ : St → Prop} {f : St → St}
    (hin : ∀ s, P s → P₁ (s.setUseCur true)) (hf : ∀ s, P₁ s → Q₁ (f s))
    (hout : ∀ s, Q₁ s → Q (s.setUseCur false)) : ∀ s, P s → Q (withUseCur f s) :=
  fun s hp => hout _ (hf _ (hin s hp))

/-- `_reserve_er_space`.  `I` holds from entry to exit; the exits are: the record cannot fit an empty packet,
    the back end answered "full", the run has halted, space is reserved -/
theorem reserve_rule {I : St → Prop} {R : Bool × St → Prop} {erSize emptySize : Nat}
    (hfull : ∀ s, I s → I (cbFull s).2)
    (hopen : ∀ s, I s → I (withUseCur (cbOpen cfg d) s))
    (hclose : ∀ s, I s → I (withUseCur (cbClose cfg d) s))
    (hbe : ∀ s, I s → (cbFull s).1 = true → R (noSpace false (cbFull s).2))
    (hhalt : ∀ s, I s → s.halted = true → R (false, s))
    (hyes : ∀ s, I s → R (true, s)) :
    ∀ s, I s → (emptySize > s.c.room s.c.offContent → R (noSpace true s)) → R (reserve cfg d erSize emptySize s) := by
  have tail : ∀ s, I s → R (reserveTail cfg d erSize s) := by
    intro s hi
    unfold reserveTail
    split
    · exact hhalt s hi ‹_›
    · split
      · unfold reopenAfterClose
        simp only
        have h1 := hclose s hi
        generalize withUseCur (cbClose cfg d) s = s1 at h1
        split
        · exact hbe s1 h1 ‹_›
        · exact hyes _ (hopen _ (hfull s1 h1))
      · exact hyes s hi
  intro s hi hfit
  unfold reserve
  split
  · exact hfit ‹_›
  · split
    · simp only
      split
      · exact hbe s hi ‹_›
      · exact tail _ (hopen _ (hfull s hi))
    · exact tail s hi

theorem traceWrite_eq (e : ERT) (args : Args) (s : St) :
    traceWrite cfg d e args s =
      if (traceStore cfg d e args s).halted then traceStore cfg d e args s else
      if (commit cfg d (traceStore cfg d e args s)).halted then commit cfg d (traceStore cfg d e args s)
      else (commit cfg d (traceStore cfg d e args s)).setFlag false := by
  unfold traceWrite traceStore
  simp only
  cases h : (runSer (serRecord (serEnvOf cfg d e.id s.c.curLastEventTs s.c) d e args) s).halted
  · have : ∀ (c : Prop) [Decidable c] (t : St) (x y : Ev), ((if c then t.ev x else t).ev y).halted = t.halted :=
      fun c _ t x y => by split <;> rfl
    simp only [Bool.false_eq_true, if_false, this, h]
  · simp only [if_true, h]

/-- a tracing function after its enable test.  `I` holds while space is being reserved for the record, `X` once the
    call is about to return (record written, record discarded, run halted), `J` when it has returned -/
theorem traceEnabled_rule {I X J : St → Prop} {e : ERT} {args : Args}
    (hfull : ∀ s, I s → I (cbFull s).2)
    (hopen : ∀ s, I s → I (withUseCur (cbOpen cfg d) s))
    (hclose : ∀ s, I s → I (withUseCur (cbClose cfg d) s))
    (hdisc : ∀ cf s, I s → X (noSpace cf s).2)
    (hhalt : ∀ s, I s → s.halted = true → X s)
    (hstore : ∀ s, I s → s.halted = false → erSizeAt d e args s.c.at_ ≤ s.c.room s.c.at_ →
      X (traceStore cfg d e args s))
    (hcommit : ∀ s, X s → s.halted = false → X (cbClose cfg d s))
    (exit0 : ∀ s, X s → s.halted = true → J s)
    (exit1 : ∀ s, X s → s.halted = false → J (s.setFlag false)) :
    ∀ s, I s → J (traceEnabled cfg d e args s) := by
  intro s2 h2
  unfold traceEnabled
  have leave : ∀ (erAt erSize : Nat) (cf : Bool) (s : St), I s →
      J (traceAfterReserve cfg d e args erAt erSize (noSpace cf s)) := by
    intro erAt erSize cf s hi
    unfold traceAfterReserve
    split
    · exact exit0 _ (hdisc cf s hi) ‹_›
    · exact exit1 _ (hdisc cf s hi) (by simpa using ‹¬ (noSpace cf s).2.halted = true›)
  refine reserve_rule (R := fun r => J (traceAfterReserve cfg d e args s2.c.at_ (erSizeAt d e args s2.c.at_) r))
    hfull hopen hclose (fun s hi _ => leave _ _ false _ (hfull s hi)) ?_ ?_ s2 h2 (fun _ => leave _ _ true s2 h2)
  · intro s hi hh
    unfold traceAfterReserve
    rw [if_pos hh]
    exact exit0 s (hhalt s hi hh) hh
  · intro s hi
    unfold traceAfterReserve
    split
    · exact exit0 s (hhalt s hi ‹_›) ‹_›
    · rename_i hh
      have hh : s.halted = false := by simpa using hh
      simp only [Bool.not_true, Bool.false_eq_true, if_false, sizeAfterReserve_eq]
      split
      · exact exit1 _ (hdisc true s hi) hh
      · rename_i hfit
        have h3 := hstore s hi hh (Nat.le_of_not_gt hfit)
        rw [traceWrite_eq]
        generalize traceStore cfg d e args s = s3 at h3
        split
        · exact exit0 s3 h3 ‹_›
        · rename_i hh3
          have h4 : X (commit cfg d s3) := by
            unfold commit
            rw [if_neg hh3]
            split
            · exact hcommit s3 h3 (eq_false_of_ne_true hh3)
            · exact h3
          split
          · exact exit0 _ h4 ‹_›
          · exact exit1 _ h4 (by simpa using ‹¬ (commit cfg d s3).halted = true›)

theorem traceBody_rule {J₁ I J : St → Prop} {e : ERT} {args : Args}
    (hoff : ∀ s, J₁ s → s.c.isTracingEnabled = false → J (s.ev (.traceCall e.name false)))
    (hon : ∀ s, J₁ s → s.c.isTracingEnabled = true → I ((s.ev (.traceCall e.name true)).setFlag true))
    (hen : ∀ s, I s → J (traceEnabled cfg d e args s)) : ∀ s, J₁ s → J (traceBody cfg d e args s) := by
  intro s h1
  unfold traceBody
  simp only [St.ev_c]
  by_cases hen' : s.c.isTracingEnabled = true
  case neg =>
    have hen' : s.c.isTracingEnabled = false := by simpa using hen'
    simpa [hen'] using hoff s h1 hen'
  case pos =>
    simp only [hen', Bool.not_true, Bool.false_eq_true, if_false]
    exact hen _ (hon s h1 hen')

theorem traceClock_rule
    (hnone : ∀ s, P s → d.clock = none → Q s)
    (hclk : ∀ clk s, P s → d.clock = some clk → Q ((cbClock clk s).2.setCurTs (cbClock clk s).1)) :
    ∀ s, P s → Q (traceClock d s) := by
  intro s hp
  unfold traceClock
  split
  · exact hclk _ s hp ‹_›
  · exact hnone s hp ‹_›

theorem trace_rule {J J₁ : St → Prop} {e : ERT} {args : Args}
    (hclock : ∀ s, J s → s.halted = false → J₁ (traceClock d s))
    (hbody : ∀ s, J₁ s → J (traceBody cfg d e args s)) : ∀ s, J s → J (trace cfg d e args s) := by
  intro s hj
  unfold trace
  split
  · exact hj
  · exact hbody _ (hclock s hj (by simpa using ‹¬ s.halted = true›))

/-- a predicate that the plumbing, the flag, the use-current-timestamp bracket and the sampled timestamp do not touch is
    kept by a tracing function if the two callbacks, a discarded record and the serialisation of the record keep it -/
theorem trace_keep {I : St → Prop} {e : ERT} {args : Args}
    (hpl : ∀ s s', I s → Plumb s s' → I s') (hfl : ∀ s b, I s → I (s.setFlag b))
    (huc : ∀ s b, I s → I (s.setUseCur b)) (hts : ∀ s v, I s → I (s.setCurTs v))
    (hcall : ∀ s b, I s → I (s.ev (.traceCall e.name b)))
    (hcb : (∀ s, I s → I (cbOpen cfg d s)) ∧ (∀ s, I s → I (cbClose cfg d s)))
    (hns : ∀ cf s, I s → I (noSpace cf s).2)
    (hst : ∀ s, I s → s.halted = false → erSizeAt d e args s.c.at_ ≤ s.c.room s.c.at_ → I (traceStore cfg d e args s)) :
    ∀ s, I s → I (trace cfg d e args s) :=
  have huse : ∀ f : St → St, (∀ s, I s → I (f s)) → ∀ s, I s → I (withUseCur f s) := fun f hf =>
    withUseCur_rule (fun s hi => huc s true hi) hf fun s hi => huc s false hi
  trace_rule (J₁ := I)
    (fun s hi _ => traceClock_rule (P := I) (fun _ hi _ => hi)
      (fun clk s hi _ => hts _ _ (hpl _ _ hi (cbClock_plumb clk s))) s hi)
    (traceBody_rule (I := I) (fun s hi _ => hcall s false hi) (fun s hi _ => hfl _ true (hcall s true hi))
      (traceEnabled_rule (X := I) (fun s hi => hpl _ _ hi (cbFull_plumb s)) (huse _ hcb.1) (huse _ hcb.2) hns
        (fun _ hi _ => hi) hst (fun s hi _ => hcb.2 s hi) (fun _ hi _ => hi) fun s hi _ => hfl s false hi))

/-- a history of calls of the public API: each is an operation, then the `ret` event -/
theorem runOps_rule {J : St → Prop} {ops : List Op}
    (hcb : (∀ s, J s → J (cbOpen cfg d s)) ∧ (∀ s, J s → J (cbClose cfg d s)))
    (htrace : ∀ en args e, .trace en args ∈ ops → e ∈ d.erts → e.name = en → ∀ s, J s → J (trace cfg d e args s))
    (henable : ∀ b, .enable b ∈ ops → ∀ s, J s → J (s.setEnabled b))
    (hret : ∀ name s, J s → s.halted = false → J (s.ev (.ret name s.c s.buf.length))) :
    ∀ s, J s → J (runOps cfg d ops s) := by
  have step : ∀ op ∈ ops, ∀ s, J s → J (stepOp cfg d op s) := by
    intro op hop s hj
    unfold stepOp
    split
    · exact hj
    · have key : ∀ (name : String) (s' : St), J s' →
          J (if s'.halted = true then s' else s'.ev (.ret name s'.c s'.buf.length)) := by
        intro name s' h
        split
        · exact h
        · exact hret name s' h (by simpa using ‹¬ s'.halted = true›)
      cases op with
      | open_ => exact key "open" _ (hcb.1 s hj)
      | close => exact key "close" _ (hcb.2 s hj)
      | trace en args =>
        simp only
        split
        · rename_i e hfind
          exact key "trace" _ (htrace en args e hop (List.mem_of_find?_eq_some hfind)
            (by simpa using List.find?_some hfind) s hj)
        · exact key "trace" _ hj
      | enable b => exact key "enable" _ (henable b hop s hj)
      | query => exact key "query" _ hj
      | fin =>
        refine key "fin" _ ?_
        split
        · exact hcb.2 s hj
        · exact hj
  have run : ∀ l : List Op, (∀ op ∈ l, op ∈ ops) → ∀ s, J s → J (l.foldl (fun s op => stepOp cfg d op s) s) := by
    intro l
    induction l with
    | nil => exact fun _ _ h => h
    | cons op l ih => exact fun hl s hj => ih (fun o ho => hl o (by simp [ho])) _ (step op (hl op (by simp)) s hj)
  exact run ops fun _ h => h

end rules

end BVM
