/-
  Proofs/RtCount.lean — ghost counters: the discarded-records counter, the sequence number and the
  is-open flag are exactly the numbers of `discard` / `closed` events and the last `opened`/`closed`
  event of the log (C03, C04, C06).
-/
import BVM.Proofs.RtRules
namespace BVM

def nDisc : List Ev → Nat
  | [] => 0
  | .discard _ :: l => nDisc l + 1
  | _ :: l => nDisc l

def nClosed : List Ev → Nat
  | [] => 0
  | .closed _ _ _ :: l => nClosed l + 1
  | _ :: l => nClosed l

/-- is the newest `opened`/`closed` event an `opened`? -/
def lastOpen : List Ev → Bool
  | [] => false
  | .opened _ :: _ => true
  | .closed _ _ _ :: _ => false
  | _ :: l => lastOpen l

/-- the sequence number the context must hold given the log -/
def seqOf (d : DST) (log : List Ev) : Nat := if d.feat.seqNum.isSome then nClosed log % 4294967296 else 0

/-- every `closed cs sn dc` event carries the sequence number = number of packets closed before it, and
    the discarded-records snapshot = number of records discarded before it (both reduced mod 2^32) -/
def closedOK (d : DST) : List Ev → Prop
  | [] => True
  | .closed _ sn dc :: rest => dc = nDisc rest % 4294967296 ∧ sn = seqOf d rest ∧ closedOK d rest
  | _ :: rest => closedOK d rest

/-- events that do not concern the counters -/
def PQuiet : Ev → Prop
  | .cb _ _ _ _ => True
  | .cbExit _ _ => True
  | .store _ _ _ _ => True
  | .deliver _ _ _ => True
  | .clockRead _ => True
  | .assertFail => True
  | .oob => True
  | .ret _ _ _ => True
  | .tsWrite _ _ => False
  | .traceCall _ _ => False
  | .recDone _ _ _ => False
  | .discard _ => False
  | .fullAnswer _ => True
  | .opened _ => False
  | .closed _ _ _ => False

/-- events that do not concern the three counters of `CInv` -/
def PHarmless : Ev → Prop
  | .cb _ _ _ _ => True
  | .cbExit _ _ => True
  | .store _ _ _ _ => True
  | .deliver _ _ _ => True
  | .clockRead _ => True
  | .assertFail => True
  | .oob => True
  | .ret _ _ _ => True
  | .tsWrite _ _ => True
  | .traceCall _ _ => True
  | .recDone _ _ _ => True
  | .discard _ => False
  | .fullAnswer _ => True
  | .opened _ => False
  | .closed _ _ _ => False

theorem PQuiet.harmless (e : Ev) (h : PQuiet e) : PHarmless e := by
  cases e <;> first | exact h | trivial

theorem quiet_counts (d : DST) (new old : List Ev) (h : ∀ e ∈ new, PHarmless e) :
    nDisc (new ++ old) = nDisc old ∧ nClosed (new ++ old) = nClosed old ∧ lastOpen (new ++ old) = lastOpen old ∧
    (closedOK d (new ++ old) ↔ closedOK d old) := by
  induction new with
  | nil => simp
  | cons e es ih =>
    have hq := h e (by simp)
    obtain ⟨i1, i2, i3, i4⟩ := ih (fun x hx => h x (by simp [hx]))
    cases e <;> simp [PHarmless] at hq <;> simp [nDisc, nClosed, lastOpen, closedOK, i1, i2, i3, i4]

/-- the counter invariant -/
structure CInv (d : DST) (s : St) : Prop where
  disc : s.c.eventsDiscarded = nDisc s.log % 4294967296
  seq : s.c.sequenceNumber = seqOf d s.log
  isOpen : s.c.packetIsOpen = lastOpen s.log
  closed : closedOK d s.log

/-- a step that leaves the three fields alone and logs only quiet events -/
structure Same (s s' : St) : Prop where
  disc : s'.c.eventsDiscarded = s.c.eventsDiscarded
  seq : s'.c.sequenceNumber = s.c.sequenceNumber
  isOpen : s'.c.packetIsOpen = s.c.packetIsOpen
  ext : Ext PQuiet s s'

theorem Same.refl (s : St) : Same s s := ⟨rfl, rfl, rfl, Ext.refl _ _⟩
theorem Same.trans {a b c : St} (h₁ : Same a b) (h₂ : Same b c) : Same a c :=
  ⟨h₂.disc.trans h₁.disc, h₂.seq.trans h₁.seq, h₂.isOpen.trans h₁.isOpen, h₁.ext.trans h₂.ext⟩
theorem Same.upd {s s' : St} (hl : s'.log = s.log) (h1 : s'.c.eventsDiscarded = s.c.eventsDiscarded)
    (h2 : s'.c.sequenceNumber = s.c.sequenceNumber) (h3 : s'.c.packetIsOpen = s.c.packetIsOpen) : Same s s' :=
  ⟨h1, h2, h3, Ext.of_log_eq hl⟩


theorem Same.setOffContent (s : St) (v : Nat) : Same s (s.setOffContent v) := ⟨rfl, rfl, rfl, Ext.of_log_eq rfl⟩
theorem Same.setPacketSize (s : St) (v : Nat) : Same s (s.setPacketSize v) := ⟨rfl, rfl, rfl, Ext.of_log_eq rfl⟩
theorem Same.setPlat (s : St) (p : Plat) : Same s (s.setPlat p) := ⟨rfl, rfl, rfl, Ext.of_log_eq rfl⟩

/-- a step that leaves the three fields alone and logs no `discard`, `opened` or `closed` event keeps the counter
    invariant -/
theorem CInv.step {d : DST} {s s' : St} (hi : CInv d s) (h1 : s'.c.eventsDiscarded = s.c.eventsDiscarded)
    (h2 : s'.c.sequenceNumber = s.c.sequenceNumber) (h3 : s'.c.packetIsOpen = s.c.packetIsOpen)
    (he : Ext PHarmless s s') : CInv d s' := by
  obtain ⟨new, hl, hq⟩ := he
  obtain ⟨q1, q2, q3, q4⟩ := quiet_counts d new s.log hq
  refine ⟨?_, ?_, ?_, ?_⟩
  · rw [h1, hi.disc, hl, q1]
  · rw [h2, hi.seq, hl]; unfold seqOf; rw [q2]
  · rw [h3, hi.isOpen, hl, q3]
  · rw [hl, q4]; exact hi.closed

theorem Same.inv {d : DST} {s s' : St} (h : Same s s') (hi : CInv d s) : CInv d s' :=
  hi.step h.disc h.seq h.isOpen (h.ext.mono PQuiet.harmless)

theorem CInv.set {d : DST} {s s' : St} (hi : CInv d s) (hl : s'.log = s.log := by rfl)
    (h1 : s'.c.eventsDiscarded = s.c.eventsDiscarded := by rfl) (h2 : s'.c.sequenceNumber = s.c.sequenceNumber := by rfl)
    (h3 : s'.c.packetIsOpen = s.c.packetIsOpen := by rfl) : CInv d s' := hi.step h1 h2 h3 (Ext.of_log_eq hl)

/-- logging an event that is not `discard`/`opened`/`closed` keeps the counter invariant -/
theorem CInv.ev {d : DST} {s : St} (hi : CInv d s) (e : Ev) (h : PHarmless e) : CInv d (s.ev e) :=
  hi.step rfl rfl rfl (Ext.ev s e h)

theorem PCb.quiet {f : Bool} (e : Ev) (h : PCb f e) : PQuiet e := by
  cases e <;> first | trivial | exact h.elim

theorem Plumb.same {s s' : St} (h : Plumb s s') : Same s s' :=
  ⟨(congrArg Ctx.eventsDiscarded h.ctx :), (congrArg Ctx.sequenceNumber h.ctx :), (congrArg Ctx.packetIsOpen h.ctx :),
    h.log.mono PCb.quiet⟩

theorem PSer.quiet {f : Bool} (e : Ev) (h : PSer f e) : PQuiet e := by
  cases e <;> first | trivial | exact h.elim

theorem SerStep.same {s s' : St} (h : SerStep s s') : Same s s' :=
  ⟨(congrArg Ctx.eventsDiscarded h.ctx :), (congrArg Ctx.sequenceNumber h.ctx :), (congrArg Ctx.packetIsOpen h.ctx :),
    h.log.mono PSer.quiet⟩

theorem runSer_same (f : SerSt → SerSt) (s : St) : Same s (runSer f s) := (runSer_step f s).same

theorem closeBacks_same (cfg : Cfg) (d : DST) (ts : Nat) (s : St) : Same s (closeBacks cfg d ts s) :=
  (closeBacks_step cfg d ts s).same

theorem setBuf_same (bytes : Nat) (s : St) : Same s (setBuf bytes s) := by
  unfold setBuf
  simp only
  split <;> exact ⟨rfl, rfl, rfl, Ext.of_log_eq rfl⟩

variable (cfg : Cfg) (d : DST)

theorem openWrite_inv (args : Args) (ts : Nat) (saved : Bool) (s : St) (hi : CInv d s) :
    CInv d (openWrite cfg d args ts saved s) :=
  openWrite_rule (P₂ := CInv d) s ((runSer_same _ (s.setAt 0)).inv hi.set) (fun _ h _ => h)
    (fun _ h _ => h.ev _ trivial) fun s₁ h _ =>
      ⟨by simpa [nDisc] using h.disc, by simpa [seqOf, nClosed] using h.seq, by simp [lastOpen],
        by simpa [closedOK] using h.closed⟩

theorem closeWrite_inv (ts : Nat) (saved : Bool) (s : St) (hi : CInv d s) :
    CInv d (closeWrite cfg d ts saved s) := by
  refine closeWrite_rule (P₂ := CInv d) s ((closeBacks_same cfg d ts (s.setContentSize s.c.at_)).inv hi.set)
    (fun _ h _ => h) (fun _ h _ => h.ev _ trivial) fun s₁ h _ => ⟨?_, ?_, ?_, ?_⟩
  · simpa [nDisc] using h.disc
  · have := h.seq
    cases hsq : d.feat.seqNum.isSome
    · simpa [seqOf, hsq] using this
    · simp [seqOf, hsq] at this
      simp [seqOf, hsq, nClosed, this, u32]
  · simp [lastOpen]
  · simp only [St.setFlag_log, St.setSeqNum_log, St.setOpen_log, St.setAt_log, St.ev_log, closedOK]
    exact ⟨h.disc, h.seq, h.closed⟩

theorem noSpace_inv (cf : Bool) (s : St) (hi : CInv d s)  : CInv d (noSpace cf s).2 := by
  unfold noSpace
  refine ⟨?_, ?_, ?_, ?_⟩
  · have := hi.disc
    simp [nDisc, u32, this]
  · simpa [seqOf, nClosed] using hi.seq
  · simpa [lastOpen] using hi.isOpen
  · simpa [closedOK] using hi.closed

theorem traceStore_inv (e : ERT) (args : Args) (s : St) (hi : CInv d s) : CInv d (traceStore cfg d e args s) :=
  traceStore_rule (P₂ := CInv d) s ((runSer_same _ s).inv hi) (fun _ h _ => h) (fun _ h _ => h.ev _ trivial)
    fun _ h _ => h.ev _ trivial

/-! the counter invariant through the control structure (Proofs/RtRules.lean) -/

theorem CInv.plumb {d : DST} {s s' : St} (hi : CInv d s) (h : Plumb s s') : CInv d s' := h.same.inv hi

theorem callbacks_inv :
    (∀ s, CInv d s → CInv d (cbOpen cfg d s)) ∧ (∀ s, CInv d s → CInv d (cbClose cfg d s)) :=
  callbacks_keep (fun _ _ h => h.plumb) (fun _ _ h => h.set)
    (fun args ts saved s h _ _ => openWrite_inv cfg d args ts saved s h)
    (fun ts saved s h _ => closeWrite_inv cfg d ts saved s h) (fun _ _ h => h.ev _ trivial)
    fun _ b s h _ => (setBuf_same b s).inv h

theorem trace_inv (e : ERT) (args : Args) : ∀ s, CInv d s → CInv d (trace cfg d e args s) :=
  trace_keep (fun _ _ h => h.plumb) (fun _ _ h => h.set) (fun _ _ h => h.set)
    (fun _ _ h => h.set) (fun _ _ h => h.ev _ trivial) (callbacks_inv cfg d) (noSpace_inv d)
    fun s h _ _ => traceStore_inv cfg d e args s h

theorem runOps_inv (ops : List Op) : ∀ s, CInv d s → CInv d (runOps cfg d ops s) :=
  runOps_rule (callbacks_inv cfg d) (fun _ args e _ _ _ => trace_inv cfg d e args)
    (fun _ _ _ h => h.set) fun _ s h _ => h.ev _ trivial

theorem rtInit_inv (bytes : Nat) (p : Plat) : CInv d (rtInit bytes p) := by
  refine ⟨rfl, ?_, rfl, trivial⟩
  unfold seqOf; simp [rtInit, nClosed]

end BVM
