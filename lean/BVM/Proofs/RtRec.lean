/-
  Proofs/RtRec.lean — every tracing call made while enabled ends as exactly one `recDone` or exactly
  one `discard` (unless the run halts on an out-of-bounds store or a failed assertion) (C03).
-/
import BVM.Proofs.RtCount
namespace BVM

def nRec : List Ev → Nat
  | [] => 0
  | .recDone _ _ _ :: l => nRec l + 1
  | _ :: l => nRec l

/-- number of tracing calls that passed their enable test -/
def nCall : List Ev → Nat
  | [] => 0
  | .traceCall _ true :: l => nCall l + 1
  | _ :: l => nCall l

/-- neither a tracing call, nor a record, nor a discard -/
def PNoRec : Ev → Prop
  | .traceCall _ _ => False
  | .recDone _ _ _ => False
  | .discard _ => False
  | _ => True

theorem PCb.noRec {f : Bool} (e : Ev) (h : PCb f e) : PNoRec e := by
  cases e <;> first | trivial | exact h.elim

theorem PSer.noRec {f : Bool} (e : Ev) (h : PSer f e) : PNoRec e := by
  cases e <;> first | trivial | exact h.elim

theorem counts_append (a b : List Ev) :
    nRec (a ++ b) = nRec a + nRec b ∧ nDisc (a ++ b) = nDisc a + nDisc b ∧ nCall (a ++ b) = nCall a + nCall b := by
  induction a with
  | nil => simp [nRec, nDisc, nCall]
  | cons e es ih =>
    obtain ⟨i1, i2, i3⟩ := ih
    cases e <;> simp [nRec, nDisc, nCall, i1, i2, i3] <;> try omega
    rename_i n b; cases b <;> simp [nCall, i3]; omega

theorem noRec_zero (new : List Ev) (h : ∀ e ∈ new, PNoRec e) : nRec new = 0 ∧ nDisc new = 0 ∧ nCall new = 0 := by
  induction new with
  | nil => exact ⟨rfl, rfl, rfl⟩
  | cons e es ih =>
    have hq := h e (by simp)
    obtain ⟨i1, i2, i3⟩ := ih (fun x hx => h x (by simp [hx]))
    cases e <;> simp [PNoRec] at hq <;> simp [nRec, nDisc, nCall, i1, i2, i3]

/-- `s` extends `s₀` by events among which `k` records and discards, and no tracing call -/
def Out (k : Nat) (s₀ s : St) : Prop :=
  ∃ new, s.log = new ++ s₀.log ∧ nRec new + nDisc new = k ∧ nCall new = 0

theorem Out.refl (s : St) : Out 0 s s := ⟨[], rfl, rfl, rfl⟩

/-- a step that logs no tracing call, record or discard -/
theorem Out.ext {k : Nat} {a b c : St} (h₁ : Out k a b) (h₂ : Ext PNoRec b c) : Out k a c := by
  obtain ⟨n1, e1, x1, z1⟩ := h₁
  obtain ⟨n2, e2, p2⟩ := h₂
  obtain ⟨q1, q2, q3⟩ := counts_append n2 n1
  obtain ⟨r1, r2, r3⟩ := noRec_zero n2 p2
  exact ⟨n2 ++ n1, by rw [e2, e1, List.append_assoc], by omega, by omega⟩

/-- a record or a discard is logged -/
theorem Out.ev {k : Nat} {a b : St} (h : Out k a b) (e : Ev) (he : nRec [e] + nDisc [e] = 1 ∧ nCall [e] = 0) :
    Out (k + 1) a (b.ev e) := by
  obtain ⟨n1, e1, x1, z1⟩ := h
  obtain ⟨q1, q2, q3⟩ := counts_append [e] n1
  exact ⟨[e] ++ n1, by rw [St.ev_log, e1]; rfl, by have := he.1; omega, by have := he.2; omega⟩

variable (cfg : Cfg) (d : DST)

/-! open/close and the callbacks log no record/discard/call event -/

theorem callbacks_noRec (s₀ : St) :
    (∀ s, Ext PNoRec s₀ s → Ext PNoRec s₀ (cbOpen cfg d s)) ∧ (∀ s, Ext PNoRec s₀ s → Ext PNoRec s₀ (cbClose cfg d s)) :=
  callbacks_keep (fun _ _ h hp => h.trans (hp.log.mono PCb.noRec)) (fun _ _ h => h.trans (Ext.of_log_eq rfl))
    (fun _ _ _ s h _ _ => h.trans (openWrite_logs s PSer.noRec trivial fun _ => trivial))
    (fun _ _ s h _ => h.trans (closeWrite_logs s PSer.noRec trivial fun _ _ _ => trivial))
    (fun _ s h => h.trans (Ext.ev s _ trivial))
    fun _ b s h _ => h.trans (Ext.of_log_eq (setBuf_frame b s).2.2.1)

theorem cbOpen_noRec (s : St) : Ext PNoRec s (cbOpen cfg d s) := (callbacks_noRec cfg d s).1 s (Ext.refl _ _)
theorem cbClose_noRec (s : St) : Ext PNoRec s (cbClose cfg d s) := (callbacks_noRec cfg d s).2 s (Ext.refl _ _)

theorem withUseCur_noRec (f : St → St) (hf : ∀ s, Ext PNoRec s (f s)) (s : St) : Ext PNoRec s (withUseCur f s) :=
  (Ext.of_log_eq (s' := s.setUseCur true) rfl).trans ((hf _).trans (Ext.of_log_eq rfl))

theorem cbFull_noRec (s : St) : Ext PNoRec s (cbFull s).2 := (cbFull_plumb s).log.mono PCb.noRec

/-! a tracing call that passed its enable test -/

theorem traceStore_out {k : Nat} (e : ERT) (args : Args) {s₀ s : St} (h : Out k s₀ s)
    (hn : (traceStore cfg d e args s).halted = false) : Out (k + 1) s₀ (traceStore cfg d e args s) :=
  traceStore_rule (P₂ := Out k s₀) (Q := fun s' => s'.halted = false → Out (k + 1) s₀ s') s
    (h.ext ((runSer_step _ s).log.mono PSer.noRec)) (fun _ _ hh hn => nomatch hh.symm.trans hn)
    (fun s₁ h _ => h.ext (Ext.ev s₁ _ trivial)) (fun _ h _ _ => h.ev _ ⟨rfl, rfl⟩) hn

/-- a call that passed its enable test and did not halt: exactly one record or exactly one discard -/
theorem traceEnabled_out (e : ERT) (args : Args) (s₀ : St) (hn : (traceEnabled cfg d e args s₀).halted = false) :
    Out 1 s₀ (traceEnabled cfg d e args s₀) :=
  traceEnabled_rule (I := Out 0 s₀) (X := fun s => s.halted = false → Out 1 s₀ s) (J := fun s => s.halted = false → Out 1 s₀ s)
    (fun s h => h.ext (cbFull_noRec s))
    (fun s h => h.ext (withUseCur_noRec _ (cbOpen_noRec cfg d) s))
    (fun s h => h.ext (withUseCur_noRec _ (cbClose_noRec cfg d) s))
    (fun cf s h _ => (h.ev (.discard cf) ⟨rfl, rfl⟩).ext (Ext.of_log_eq rfl))
    (fun s _ hh hn => by rw [hh] at hn; cases hn)
    (fun s h _ _ hn => traceStore_out cfg d e args h hn)
    (fun s h hh _ => (h hh).ext (cbClose_noRec cfg d s))
    (fun _ h _ => h) (fun s h _ hn => (h hn).ext (Ext.of_log_eq rfl))
    s₀ (Out.refl s₀) hn

/-- balance between tracing calls that passed their enable test, records and discards -/
def Bal (s : St) : Prop := s.halted = false → nCall s.log = nRec s.log + nDisc s.log

theorem Out.bal {k : Nat} {s s' : St} (h : Out k s s') (hb : nCall s.log = nRec s.log + nDisc s.log + k) :
    nCall s'.log = nRec s'.log + nDisc s'.log := by
  obtain ⟨new, e, x, z⟩ := h
  obtain ⟨q1, q2, q3⟩ := counts_append new s.log
  rw [e, q1, q2, q3]; omega

theorem runOps_bal (ops : List Op) : ∀ s, Bal s → Bal (runOps cfg d ops s) := by
  -- a callback entered by a halted run returns at once; otherwise it logs no call, record or discard
  have hcb : ∀ (f : St → St), (∀ s, s.halted = true → f s = s) → (∀ s, Ext PNoRec s (f s)) → ∀ s, Bal s → Bal (f s) := by
    intro f h0 h1 s hb
    by_cases hh : s.halted = true
    · rw [h0 s hh]; exact hb
    · exact fun _ => ((Out.refl s).ext (h1 s)).bal (hb (by simpa using hh))
  refine runOps_rule ⟨hcb _ (fun _ => cbOpen_halted) (cbOpen_noRec cfg d), hcb _ (fun _ => cbClose_halted) (cbClose_noRec cfg d)⟩
    (fun _ args e _ _ _ => ?_) (fun b _ s h => h) fun _ s h _ hn => by simpa [nCall, nRec, nDisc] using h hn
  -- between the clock sample and the enable test the counts balance; after a passed test one outcome is due
  refine trace_rule (J₁ := fun s => nCall s.log = nRec s.log + nDisc s.log) (fun s hb hh => ?_)
    (traceBody_rule (I := fun s => nCall s.log = nRec s.log + nDisc s.log + 1)
      (fun s h _ _ => by simpa [nCall, nRec, nDisc] using h) (fun s h _ => by simpa [nCall, nRec, nDisc] using h)
      fun s h hn => (traceEnabled_out cfg d e args s hn).bal h)
  exact traceClock_rule (P := fun t => t = s) (fun _ ht _ => ht ▸ hb hh)
    (fun clk _ ht _ => ht ▸ ((Out.refl s).ext ((cbClock_plumb clk s).log.mono PCb.noRec)).bal (hb hh)) s rfl

/-! why `_reserve_er_space` says no -/

/-- the back end answered "full" somewhere between `s` and `s'` -/
def FullYes (s s' : St) : Prop := ∃ new, s'.log = new ++ s.log ∧ Ev.fullAnswer true ∈ new

theorem FullYes.after {P : Ev → Prop} {a b c : St} (h₁ : Ext P a b) (h₂ : FullYes b c) : FullYes a c := by
  obtain ⟨n1, e1, _⟩ := h₁
  obtain ⟨n2, e2, m⟩ := h₂
  exact ⟨n2 ++ n1, by rw [e2, e1, List.append_assoc], List.mem_append.mpr (Or.inl m)⟩

theorem FullYes.before {P : Ev → Prop} {a b c : St} (h₁ : FullYes a b) (h₂ : Ext P b c) : FullYes a c := by
  obtain ⟨n1, e1, m⟩ := h₁
  obtain ⟨n2, e2, _⟩ := h₂
  exact ⟨n2 ++ n1, by rw [e2, e1, List.append_assoc], List.mem_append.mpr (Or.inr m)⟩

theorem cbFull_yes (s : St) (h : (cbFull s).1 = true) : FullYes s (cbFull s).2 :=
  ⟨[_, _, _], cbFull_log s, by rw [h]; simp⟩

/-- C03, last sentence: `_reserve_er_space` refuses a record only if it cannot fit an empty packet
    (its size at the content offset against `packet_size - off_content`) or the back end answered
    "full" during the call -/
theorem reserve_reason (erSize emptySize : Nat) (s₀ : St)
    (hn : (reserve cfg d erSize emptySize s₀).2.halted = false) (h : (reserve cfg d erSize emptySize s₀).1 = false) :
    emptySize > s₀.c.room s₀.c.offContent ∨ FullYes s₀ (reserve cfg d erSize emptySize s₀).2 :=
  reserve_rule (I := Ext PNoRec s₀)
    (R := fun r => r.2.halted = false → r.1 = false → emptySize > s₀.c.room s₀.c.offContent ∨ FullYes s₀ r.2)
    (fun s h => h.trans (cbFull_noRec s)) (fun s h => h.trans (withUseCur_noRec _ (cbOpen_noRec cfg d) s))
    (fun s h => h.trans (withUseCur_noRec _ (cbClose_noRec cfg d) s))
    (fun s h hf _ _ => .inr (FullYes.after h ((cbFull_yes s hf).before (Ext.ev (P := fun _ => True) _ (.discard false) trivial |>.trans (Ext.of_log_eq rfl)))))
    (fun s _ hh hn _ => by rw [hh] at hn; cases hn) (fun _ _ _ h => by cases h)
    s₀ (Ext.refl _ _) (fun h _ _ => .inl h) hn h

end BVM
