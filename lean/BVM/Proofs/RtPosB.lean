/-
  Proofs/RtPosB.lean — the position invariant for platforms that install packet buffers of *different* sizes
  (`barectf_packet_set_buf` from the close callback, api.adoc), for histories in which tracing is never disabled and the
  first call opens a packet (what every platform of the documentation does in its initialisation):

      not halted ∧ packet_size = 8·(buffer length) ∧ the buffer is one of the admitted sizes
      ∧ at ≤ packet_size ∧ (packet open → saved offsets inside the buffer ∧ off_content ≤ at)
      ∧ (packet closed → at = packet_size) ∧ tracing enabled ∧ no toggle scripted

  The two restrictions are exactly where the statement is false on the current tree: a closing that the tracer ignores
  because tracing is disabled, followed by a swap to a smaller buffer, leaves `at` beyond the new packet (finding F9),
  and so does a tracing call made before any packet was opened followed by a swap (misuse).
  Proofs/RtPos.lean has the other half: one buffer size, no restriction on the history.
-/
import BVM.Proofs.RtPos
namespace BVM

/-- a buffer size the platform may install: below the no-wrap bound, and large enough for packet header + context
    (the property's precondition) -/
structure GoodBuf (cfg : Cfg) (d : DST) (A Lmax : Nat) (oa : List Args) (b : Nat) : Prop where
  le : b ≤ Lmax
  hdr : ∀ args ∈ openArgsOf oa, hdrEndN cfg d args ≤ 8 * b

/-- `strict = false` drops the clause about closed packets: the state right after `barectf_init`, before the platform
    has opened its first packet -/
structure QInv (cfg : Cfg) (d : DST) (A Lmax : Nat) (oa : List Args) (strict : Bool) (s : St) : Prop where
  nh : s.halted = false
  good : GoodBuf cfg d A Lmax oa s.buf.length
  pkt : s.c.packetSize = 8 * s.buf.length
  at_ : s.c.at_ ≤ 8 * s.buf.length
  sv : s.c.packetIsOpen = true → SavedOK d.pcOp.members s.c.saved (8 * s.buf.length)
  oc : s.c.packetIsOpen = true → s.c.offContent ≤ s.c.at_
  cl : strict = true → s.c.packetIsOpen = false → s.c.at_ = 8 * s.buf.length
  en : s.c.isTracingEnabled = true
  tg : s.p.toggles = []
  hoa : s.p.openArgs = oa
  sb : ∀ x ∈ s.p.setBufs, GoodBuf cfg d A Lmax oa x.2
  stin : ∀ e ∈ s.log, StoreIn Lmax e

structure QSame (s s' : St) : Prop where
  p : PSame s s'
  en : s'.c.isTracingEnabled = s.c.isTracingEnabled
  tg : s'.p.toggles = s.p.toggles

theorem QSame.refl (s : St) : QSame s s := ⟨PSame.refl s, rfl, rfl⟩
theorem QSame.trans {a b c : St} (h₁ : QSame a b) (h₂ : QSame b c) : QSame a c :=
  ⟨h₁.p.trans h₂.p, h₂.en.trans h₁.en, h₂.tg.trans h₁.tg⟩

theorem QSame.inv {cfg : Cfg} {d : DST} {A Lmax : Nat} {oa : List Args} {b : Bool} {s s' : St} (h : QSame s s')
    (hi : QInv cfg d A Lmax oa b s) : QInv cfg d A Lmax oa b s' :=
  ⟨h.p.nh.trans hi.nh, by rw [h.p.len]; exact hi.good, by rw [h.p.pkt, h.p.len]; exact hi.pkt,
   by rw [h.p.at_, h.p.len]; exact hi.at_, by rw [h.p.isOpen, h.p.saved, h.p.len]; exact hi.sv,
   by rw [h.p.isOpen, h.p.offc, h.p.at_]; exact hi.oc, by rw [h.p.isOpen, h.p.at_, h.p.len]; exact hi.cl,
   h.en.trans hi.en, h.tg.trans hi.tg, h.p.oa.trans hi.hoa, by rw [h.p.sb]; exact hi.sb,
   (h.p.sin Lmax).all hi.stin⟩

theorem QSame.ev (s : St) (e : Ev) (h : Neutral e := by exact ⟨fun _ => rfl, fun _ _ => rfl⟩)
    (h2 : ∀ L, StoreIn L e := by intro _; trivial) : QSame s (s.ev e) :=
  ⟨PSame.ev s e h h2, rfl, rfl⟩
theorem QSame.setFlag (s : St) (b : Bool) : QSame s (s.setFlag b) := ⟨PSame.setFlag s b, rfl, rfl⟩
theorem QSame.setUseCur (s : St) (b : Bool) : QSame s (s.setUseCur b) := ⟨PSame.setUseCur s b, rfl, rfl⟩
theorem QSame.setCurTs (s : St) (v : Nat) : QSame s (s.setCurTs v) := ⟨PSame.setCurTs s v, rfl, rfl⟩
theorem QSame.noSpace (cf : Bool) (s : St) : QSame s (noSpace cf s).2 := ⟨noSpace_psame cf s, rfl, rfl⟩

/-- no toggle is scripted: the plumbing changes nothing the invariant looks at -/
theorem Plumb.qsame {s s' : St} (h : Plumb s s') (htg : s.p.toggles = []) : QSame s s' := ⟨h.psame, h.en htg, h.toggles⟩

theorem StoreIn.mono {L L' : Nat} (h : L ≤ L') (e : Ev) (he : StoreIn L e) : StoreIn L' e := by
  cases e <;> first | trivial | exact Nat.le_trans he h

/-- stores inside the current buffer are inside the first `Lmax` bytes -/
theorem Inside.stores {Lmax : Nat} {s s' : St} (h : Inside s s') (hle : s.buf.length ≤ Lmax)
    (h0 : ∀ e ∈ s.log, StoreIn Lmax e) : ∀ e ∈ s'.log, StoreIn Lmax e :=
  (h.sin.mono (StoreIn.mono hle)).all h0

section
variable {cfg : Cfg} {d : DST} {A Lmax : Nat} {oa : List Args} {b : Bool} {s s' : St}

theorem QInv.plumb (hi : QInv cfg d A Lmax oa b s) (h : Plumb s s') : QInv cfg d A Lmax oa b s' := (h.qsame hi.tg).inv hi

theorem QInv.of_open (hi : QInv cfg d A Lmax oa b s) (ho : s.c.packetIsOpen = true) : QInv cfg d A Lmax oa true s :=
  { hi with cl := fun _ hc => nomatch (ho.symm.trans hc) }

theorem QInv.small (hi : QInv cfg d A Lmax oa b s) (hsmall : 8 * Lmax + A ≤ 2 ^ 32) : 8 * s.buf.length + A ≤ 2 ^ 32 := by
  have := hi.good.le
  omega

theorem QInv.posOK (hi : QInv cfg d A Lmax oa b s) (hsmall : 8 * Lmax + A ≤ 2 ^ 32) : PosOK A s :=
  ⟨hi.nh, hi.pkt, by rw [hi.pkt]; exact hi.at_, hi.small hsmall⟩

end

section
variable {cfg : Cfg} {d : DST} {A Lmax : Nat} {oa : List Args}

/-! ### opening -/

theorem openWrite_qinv (hcfg : CfgOK A cfg d) (hsmall : 8 * Lmax + A ≤ 2 ^ 32) (b : Bool) (args : Args)
    (hargs : args ∈ openArgsOf oa) (ts : Nat) (saved : Bool) (s : St) (hi : QInv cfg d A Lmax oa b s) :
    QInv cfg d A Lmax oa true (openWrite cfg d args ts saved s) := by
  obtain ⟨s₂, h, hat, hsv, heq⟩ := openWrite_eq hcfg args ts saved s hi.nh (hi.small hsmall) (hi.good.hdr args hargs)
  rw [← h.len] at hat hsv
  rw [heq]
  exact ⟨h.nh, h.len ▸ hi.good, h.pkt.trans (hi.pkt.trans (congrArg _ h.len.symm)), hat, fun _ => hsv, fun _ => Nat.le_refl _,
    nofun, h.en.trans hi.en, h.p ▸ hi.tg, h.p ▸ hi.hoa, h.p ▸ hi.sb,
    List.forall_mem_cons.2 ⟨trivial, h.stores hi.good.le hi.stin⟩⟩

/-- with tracing enabled, the open callback leaves a packet open: from then on the clause about closed packets holds -/
theorem cbOpen_qinv (hcfg : CfgOK A cfg d) (hsmall : 8 * Lmax + A ≤ 2 ^ 32) (b : Bool) :
    ∀ s, QInv cfg d A Lmax oa b s → QInv cfg d A Lmax oa true (cbOpen cfg d s) :=
  cbOpen_rule (G := fun _ => QInv cfg d A Lmax oa b) (Q₁ := QInv cfg d A Lmax oa true)
    (fun _ hi hh => nomatch (hi.nh.symm.trans hh)) (fun _ s' hi _ h => hi.plumb (h.trans (preambleTs_plumb _ _ s')))
    (fun _ _ hi he _ => nomatch (hi.en.symm.trans he)) (fun _ _ hi ho => hi.of_open ho)
    (fun args ts s hi _ ha => openWrite_qinv hcfg hsmall b args (hi.hoa ▸ ha) ts _ _ ((QSame.setFlag s true).inv hi))
    fun _ _ hi h => hi.plumb h

/-! ### closing -/

theorem closeWrite_qinv (hcfg : CfgOK A cfg d) (hsmall : 8 * Lmax + A ≤ 2 ^ 32) (ts : Nat) (saved : Bool) (s : St)
    (hi : QInv cfg d A Lmax oa true s) (ho : s.c.packetIsOpen = true) :
    QInv cfg d A Lmax oa true (closeWrite cfg d ts saved s) ∧ (closeWrite cfg d ts saved s).c.packetIsOpen = false := by
  obtain ⟨s₃, sn, h, heq⟩ := closeWrite_eq hcfg ts saved s hi.nh (hi.small hsmall) (hi.sv ho)
  have hpk : s₃.c.packetSize = 8 * s₃.buf.length := h.pkt.trans (hi.pkt.trans (congrArg _ h.len.symm))
  rw [heq]
  exact ⟨⟨h.nh, h.len ▸ hi.good, hpk, Nat.le_of_eq hpk, nofun, nofun, fun _ _ => hpk,
    h.en.trans hi.en, h.p ▸ hi.tg, h.p ▸ hi.hoa, h.p ▸ hi.sb,
    List.forall_mem_cons.2 ⟨trivial, h.stores hi.good.le hi.stin⟩⟩, rfl⟩

/-- installing another admitted buffer while the packet is closed -/
theorem setBuf_qinv (hcfg : CfgOK A cfg d) (hsmall : 8 * Lmax + A ≤ 2 ^ 32) (b : Nat) (hb : GoodBuf cfg d A Lmax oa b)
    (s : St) (hi : QInv cfg d A Lmax oa true s) (hc : s.c.packetIsOpen = false) :
    QInv cfg d A Lmax oa true (setBuf b s) ∧ (setBuf b s).c.packetIsOpen = false := by
  have hu : u32 (b * 8) = 8 * b := by
    simp only [u32]; have := hb.le; have := hcfg.Apos; omega
  have hat : (s.c.at_ == s.c.packetSize) = true := by rw [hi.cl rfl hc, hi.pkt]; simp
  unfold setBuf
  simp only [hu, hat, if_true]
  exact ⟨⟨hi.nh, by simpa using hb, by simp, by simp, (fun x => nomatch (hc.symm.trans x)), (fun x => nomatch (hc.symm.trans x)),
    fun _ _ => by simp, hi.en, hi.tg, hi.hoa, hi.sb, hi.stin⟩, hc⟩

/-- with tracing enabled the closing function leaves the packet closed, and so parked at its end: the buffer may be
    swapped -/
theorem cbClose_qinv (hcfg : CfgOK A cfg d) (hsmall : 8 * Lmax + A ≤ 2 ^ 32) :
    ∀ s, QInv cfg d A Lmax oa true s → QInv cfg d A Lmax oa true (cbClose cfg d s) := by
  let C : St → Prop := fun s => QInv cfg d A Lmax oa true s ∧ s.c.packetIsOpen = false
  exact cbClose_rule (G := fun _ => QInv cfg d A Lmax oa true) (Q₁ := C) (fun _ hi _ => hi)
    (fun _ s' hi _ h => hi.plumb (h.trans (preambleTs_plumb _ _ s')))
    (fun _ _ hi he _ => nomatch (hi.en.symm.trans he)) (fun _ _ hi hc => ⟨hi, hc⟩)
    (fun ts s hi ho => closeWrite_qinv hcfg hsmall ts _ _ ((QSame.setFlag s true).inv hi) ho)
    fun w n => deliverAndSwap_rule (P := C) (P₁ := C) (fun _ h _ => h.1) (fun s h => ⟨(QSame.ev _ _).inv h.1, h.2⟩)
      (fun bytes s h hm => setBuf_qinv hcfg hsmall bytes (h.1.sb _ hm) s h.1 h.2)
      fun _ _ h hp => h.1.plumb hp

/-! ### the tracing function -/

theorem traceStore_qinv (hcfg : CfgOK A cfg d) (hsmall : 8 * Lmax + A ≤ 2 ^ 32) (e : ERT) (he : e ∈ d.erts) (args : Args)
    (hargs : ArgsSmall d Lmax A e args) (s : St) (hi : QInv cfg d A Lmax oa true s)
    (hfit : erSizeAt d e args s.c.at_ ≤ s.c.room s.c.at_) : QInv cfg d A Lmax oa true (traceStore cfg d e args s) := by
  have hLle : 8 * s.buf.length ≤ 8 * Lmax := by have := hi.good.le; omega
  obtain ⟨s₂, h, hsv, hge, hle, heq⟩ := traceStore_eq (cfg := cfg) (hcfg.recs e he) args s (hi.posOK hsmall)
    (hargs _ (Nat.le_trans hi.at_ hLle)) hfit
  rw [hi.pkt, ← h.len] at hle
  -- a closed packet is parked at its end: only a record of no bits fits, and leaves it there
  have hcl : s₂.c.packetIsOpen = false → s₂.c.at_ = 8 * s₂.buf.length := fun hc => by
    have := hi.cl rfl (h.isOpen ▸ hc)
    rw [h.len] at hle ⊢
    omega
  rw [heq]
  exact ⟨h.nh, h.len ▸ hi.good, h.pkt.trans (hi.pkt.trans (congrArg _ h.len.symm)), hle,
    fun ho => hsv ▸ h.len ▸ hi.sv (h.isOpen ▸ ho), fun ho => Nat.le_trans (h.offc ▸ hi.oc (h.isOpen ▸ ho)) hge,
    fun _ => hcl,
    h.en.trans hi.en, h.p ▸ hi.tg, h.p ▸ hi.hoa, h.p ▸ hi.sb,
    List.forall_mem_cons.2 ⟨trivial, h.stores hi.good.le hi.stin⟩⟩

theorem trace_qinv (hcfg : CfgOK A cfg d) (hsmall : 8 * Lmax + A ≤ 2 ^ 32) (e : ERT) (he : e ∈ d.erts) (args : Args)
    (hargs : ArgsSmall d Lmax A e args) :
    ∀ s, QInv cfg d A Lmax oa true s → QInv cfg d A Lmax oa true (trace cfg d e args s) :=
  trace_keep (fun _ _ hi h => hi.plumb h) (fun s b hi => (QSame.setFlag s b).inv hi)
    (fun s b hi => (QSame.setUseCur s b).inv hi) (fun s v hi => (QSame.setCurTs s v).inv hi)
    (fun _ _ hi => (QSame.ev _ _).inv hi) ⟨cbOpen_qinv hcfg hsmall true, cbClose_qinv hcfg hsmall⟩
    (fun cf s hi => (QSame.noSpace cf s).inv hi) fun s hi _ hfit => traceStore_qinv hcfg hsmall e he args hargs s hi hfit

/-! ### histories -/

/-- tracing is never disabled by the history -/
def NeverDisabled (ops : List Op) : Prop := ∀ b, Op.enable b ∈ ops → b = true

theorem runOps_qinv (hcfg : CfgOK A cfg d) (hsmall : 8 * Lmax + A ≤ 2 ^ 32) (ops : List Op) (hops : OpsSmall d Lmax A ops)
    (hen : NeverDisabled ops) : ∀ s, QInv cfg d A Lmax oa true s → QInv cfg d A Lmax oa true (runOps cfg d ops s) :=
  runOps_rule ⟨cbOpen_qinv hcfg hsmall true, cbClose_qinv hcfg hsmall⟩
    (fun en args e hop he hn => trace_qinv hcfg hsmall e he args (hops en args hop e he hn))
    (fun b hop s hi => by
      obtain rfl : b = true := hen b hop
      exact QSame.inv ⟨PSame.setEnabled s true, hi.en.symm, rfl⟩ hi)
    fun _ s hi _ => (QSame.ev _ _).inv hi

/-- the first call of the history opens a packet: from then on the strict invariant holds -/
theorem runOps_from_init (hcfg : CfgOK A cfg d) (hsmall : 8 * Lmax + A ≤ 2 ^ 32) (L : Nat) (p : Plat)
    (hL : GoodBuf cfg d A Lmax p.openArgs L) (htg : p.toggles = [])
    (hsb : ∀ x ∈ p.setBufs, GoodBuf cfg d A Lmax p.openArgs x.2)
    (ops : List Op) (hops : OpsSmall d Lmax A ops) (hen : NeverDisabled ops) :
    QInv cfg d A Lmax p.openArgs true (runOps cfg d (.open_ :: ops) (rtInit L p)) := by
  have hu : u32 (L * 8) = 8 * L := by
    simp only [u32]; have := hL.le; have := hcfg.Apos; omega
  have h0 : QInv cfg d A Lmax p.openArgs false (rtInit L p) := by
    refine ⟨rfl, by simpa [rtInit] using hL, ?_, by simp [rtInit], fun h => by simp [rtInit] at h,
      fun h => by simp [rtInit] at h, fun h => by simp at h, rfl, htg, rfl, hsb,
      fun e he => by simp [rtInit] at he⟩
    show u32 (L * 8) = 8 * (List.replicate L 0).length
    simp [hu]
  have h1 : QInv cfg d A Lmax p.openArgs true (stepOp cfg d .open_ (rtInit L p)) := by
    unfold stepOp
    rw [if_neg (by simp [rtInit])]
    simp only
    have h2 := cbOpen_qinv hcfg hsmall false _ h0
    split
    · exact h2
    · exact (QSame.ev _ _).inv h2
  exact runOps_qinv hcfg hsmall ops hops hen _ h1

end

end BVM
