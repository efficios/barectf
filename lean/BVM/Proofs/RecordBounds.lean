/-
  Proofs/RecordBounds.lean — a whole event record (header, common context, specific context, payload): the size the
  tracer computes (`_er_size_*`) is the size it writes (`_serialize_er_*`), and a record whose end is inside the packet
  buffer is written without any store outside it (C02, tracing-call level).
-/
import BVM.Proofs.SizeSer
namespace BVM

def optEndS (spec : String → Option WSrc) (pfx : String) (args : Args) (S : Option Struct) (a : Nat) : Nat :=
  match S with
  | some S => structEndS spec pfx args S a
  | none => a

/-- the end of the record of type `e` written from `a`, in unbounded arithmetic -/
def recordEndN (d : DST) (e : ERT) (args : Args) (a : Nat) : Nat :=
  optEndS specNone "p" args e.p (optEndS specNone "sc" args e.sc (optEndS specNone "cc" args d.ercc
    (structEndS specERH "h" [] d.erhStruct a)))

structure OptRootOK (spec : String → Option WSrc) (A : Nat) (S : Option Struct) : Prop where
  ok : ∀ S', S = some S' → RootOKS spec S' ∧ S'.align ≤ A ∧ ∀ m ∈ S'.members, m.ft ≠ .uuid

/-- hypotheses on the four roots of a record; `A` bounds their alignments -/
structure RecordOK (A : Nat) (d : DST) (e : ERT) : Prop where
  h : OptRootOK specERH A (some d.erhStruct)
  cc : OptRootOK specNone A d.ercc
  sc : OptRootOK specNone A e.sc
  p : OptRootOK specNone A e.p

theorem structEndS_mono (spec : String → Option WSrc) (pfx : String) (args : Args) (S : Struct) (hS : RootOKS spec S)
    (a : Nat) : a ≤ structEndS spec pfx args S a := by
  exact Nat.le_trans (alignNat_ge a S.align hS.align_pos)
    (memberEndS_fold_mono spec pfx args S.members (fun m hm => (hS.members m hm).1.pos) _)

theorem optEndS_mono (spec : String → Option WSrc) (A : Nat) (pfx : String) (args : Args) (S : Option Struct)
    (hS : OptRootOK spec A S) (a : Nat) : a ≤ optEndS spec pfx args S a := by
  cases S with
  | none => exact Nat.le_refl _
  | some S' => exact structEndS_mono spec pfx args S' (hS.ok S' rfl).1 a

/-- the ends of the four roots of a record come in order -/
theorem recordEnds_le (A : Nat) (d : DST) (e : ERT) (hok : RecordOK A d e) (args : Args) (a : Nat) :
    a ≤ structEndS specERH "h" [] d.erhStruct a ∧
    structEndS specERH "h" [] d.erhStruct a ≤ optEndS specNone "cc" args d.ercc (structEndS specERH "h" [] d.erhStruct a) ∧
    optEndS specNone "cc" args d.ercc (structEndS specERH "h" [] d.erhStruct a) ≤
      optEndS specNone "sc" args e.sc (optEndS specNone "cc" args d.ercc (structEndS specERH "h" [] d.erhStruct a)) ∧
    optEndS specNone "sc" args e.sc (optEndS specNone "cc" args d.ercc (structEndS specERH "h" [] d.erhStruct a)) ≤
      recordEndN d e args a :=
  ⟨structEndS_mono specERH "h" [] d.erhStruct (hok.h.ok _ rfl).1 a, optEndS_mono specNone A "cc" args d.ercc hok.cc _,
    optEndS_mono specNone A "sc" args e.sc hok.sc _, optEndS_mono specNone A "p" args e.p hok.p _⟩

theorem recordEndN_ge (A : Nat) (d : DST) (e : ERT) (hok : RecordOK A d e) (args : Args) (a : Nat) :
    a ≤ recordEndN d e args a := by
  obtain ⟨m0, m1, m2, m3⟩ := recordEnds_le A d e hok args a
  omega

theorem optRoot_in_bounds (env : SerEnv) (spec : String → Option WSrc) (A : Nat) (pfx : String) (args : Args)
    (S : Option Struct) (hS : OptRootOK spec A S) (s : SerSt) (L : Nat) (hsmall : 8 * L + A ≤ 2 ^ 32)
    (hlen : s.buf.length = L) (h0 : s.oob = false) (hfit : optEndS spec pfx args S s.at_ ≤ 8 * L) :
    let s' := match S.map (buildRoot spec) with | some r => serRoot env pfx r args s | none => s
    s'.oob = false ∧ s'.at_ = optEndS spec pfx args S s.at_ ∧ s'.buf.length = L := by
  cases S with
  | none => exact ⟨h0, rfl, hlen⟩
  | some S' =>
    obtain ⟨h1, h2, _⟩ := hS.ok S' rfl
    exact root_in_bounds env spec pfx args S' h1 s L (by omega) hlen h0 hfit

theorem record_in_bounds (env : SerEnv) (A : Nat) (d : DST) (e : ERT) (hok : RecordOK A d e) (args : Args) (s : SerSt)
    (L : Nat) (hsmall : 8 * L + A ≤ 2 ^ 32) (hlen : s.buf.length = L) (h0 : s.oob = false)
    (hfit : recordEndN d e args s.at_ ≤ 8 * L) :
    (serRecord env d e args s).oob = false ∧ (serRecord env d e args s).at_ = recordEndN d e args s.at_ ∧
    (serRecord env d e args s).buf.length = L := by
  obtain ⟨_, m1, m2, m3⟩ := recordEnds_le A d e hok args s.at_
  simp only [recordEndN] at hfit m3
  obtain ⟨a1, a2, a3⟩ := optRoot_in_bounds env specERH A "h" [] (some d.erhStruct) hok.h s L hsmall hlen h0
    (by show structEndS specERH "h" [] d.erhStruct s.at_ ≤ _; omega)
  simp only [Option.map_some, optEndS] at a1 a2 a3
  obtain ⟨b1, b2, b3⟩ := optRoot_in_bounds env specNone A "cc" args d.ercc hok.cc _ L hsmall a3 a1
    (by rw [a2]; show optEndS specNone "cc" args d.ercc (structEndS specERH "h" [] d.erhStruct s.at_) ≤ _; omega)
  obtain ⟨c1, c2, c3⟩ := optRoot_in_bounds env specNone A "sc" args e.sc hok.sc _ L hsmall b3 b1
    (by rw [b2, a2]; omega)
  obtain ⟨d1, d2, d3⟩ := optRoot_in_bounds env specNone A "p" args e.p hok.p _ L hsmall c3 c1
    (by rw [c2, b2, a2]; exact hfit)
  simp only [serRecord, DST.erhOp, DST.erccOp, ERT.scOp, ERT.pOp, recordEndN]
  rw [c2, b2, a2] at d2
  exact ⟨d1, d2, d3⟩

/-- `_er_size_*` computes (in `uint32_t` arithmetic) the distance `_serialize_er_*` advances -/
theorem erSizeAt_eq_ser (env : SerEnv) (A : Nat) (d : DST) (e : ERT) (hok : RecordOK A d e) (args : Args) (s : SerSt) :
    erSizeAt d e args s.at_ = subU32 (serRecord env d e args s).at_ s.at_ := by
  -- one optional root after the other, both passes in step
  have opt : ∀ (pfx : String) (S : Option Struct), OptRootOK specNone A S → ∀ (a : Nat) (t : SerSt), a = t.at_ →
      (match S.map (buildRoot specNone) with | some r => sizeRoot pfx r args a | none => a) =
      (match S.map (buildRoot specNone) with | some r => serRoot env pfx r args t | none => t).at_ := by
    intro pfx S hS a t e
    subst e
    cases S with
    | none => rfl
    | some S' =>
      obtain ⟨h1, _, h3⟩ := hS.ok S' rfl
      exact size_eq_ser_S env specNone pfx args S' h1 h3 t
  obtain ⟨hh, _, hhu⟩ := hok.h.ok _ rfl
  unfold erSizeAt serRecord
  exact congrArg (subU32 · s.at_) (opt "p" e.p hok.p _ _ (opt "sc" e.sc hok.sc _ _ (opt "cc" d.ercc hok.cc _ _
    (size_eq_ser_S env specERH "h" [] d.erhStruct hh hhu s))))

/-- while the record's true end does not wrap `uint32_t`, `_er_size_*` is its true size -/
theorem erSizeAt_exact (A : Nat) (d : DST) (e : ERT) (hok : RecordOK A d e) (args : Args) (a : Nat)
    (hnw : recordEndN d e args a + A + 8 ≤ 2 ^ 32) (hle : a ≤ recordEndN d e args a) :
    erSizeAt d e args a = recordEndN d e args a - a := by
  -- as `size_exact`: a fictitious buffer of whole bytes (`+ 8`) with room for one alignment above it (`+ A`)
  let L := (recordEndN d e args a + 7) / 8
  let env : SerEnv := ⟨.le, false, [], 0, 0, 0, 0, 0⟩
  let s : SerSt := ⟨List.replicate L 0, a, [], [], false, []⟩
  have h1 := erSizeAt_eq_ser env A d e hok args s
  have h2 := record_in_bounds env A d e hok args s L
    (by show 8 * ((recordEndN d e args a + 7) / 8) + A ≤ _; omega) (by simp [s]) rfl
    (by show recordEndN d e args a ≤ 8 * ((recordEndN d e args a + 7) / 8); omega)
  rw [h1, h2.2.1]
  show subU32 (recordEndN d e args a) a = _
  unfold subU32
  rw [if_pos hle]

/-- **the tracer's own check is sufficient**: when `_er_size_*`, computed at the position where the record will be
    written, is at most the room left in the packet (`packet_size - at`), and the packet size is the buffer size, the
    record is serialised without any store outside the buffer, and `at` stays inside the packet -/
theorem checked_record_in_bounds (env : SerEnv) (A : Nat) (d : DST) (e : ERT) (hok : RecordOK A d e) (args : Args) (s : SerSt)
    (L pktSize : Nat) (hps : pktSize = 8 * L) (hsmall : 8 * L + A ≤ 2 ^ 32) (hlen : s.buf.length = L) (h0 : s.oob = false)
    (hat : s.at_ ≤ pktSize) (hle : s.at_ ≤ recordEndN d e args s.at_)
    (hnw : recordEndN d e args s.at_ + A + 8 ≤ 2 ^ 32)
    (hfit : erSizeAt d e args s.at_ ≤ subU32 pktSize s.at_) :
    (serRecord env d e args s).oob = false ∧ (serRecord env d e args s).at_ ≤ pktSize ∧
    (serRecord env d e args s).buf.length = L := by
  rw [erSizeAt_exact A d e hok args s.at_ hnw hle] at hfit
  have hroom : subU32 pktSize s.at_ = pktSize - s.at_ := by unfold subU32; rw [if_pos hat]
  rw [hroom] at hfit
  have hin := record_in_bounds env A d e hok args s L hsmall hlen h0 (by omega)
  exact ⟨hin.1, by rw [hin.2.1]; omega, hin.2.2⟩

/-! ### inside the tracing function -/

/-- what the tracing function knows about the context when it serialises: the packet is the whole buffer, the position
    is inside it, nothing can wrap -/
structure PosOK (A : Nat) (s : St) : Prop where
  notHalted : s.halted = false
  pkt : s.c.packetSize = 8 * s.buf.length
  at_ : s.c.at_ ≤ s.c.packetSize
  small : 8 * s.buf.length + A ≤ 2 ^ 32

end BVM
