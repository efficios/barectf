/-
  Proofs/RtTs.lean — timestamps (C05): every value written to a timestamp position is a sample of the
  clock, and the values written are non-decreasing in write order, provided the clock source does not
  wrap its C type.

  A step of the runtime writes no timestamp (`TQ`) or one value at most (`TS`: a packet's beginning, its
  end, a record's); what such a step keeps is proved once, on the log.  The invariants are claimed only
  while the clock is below the modulus of its C type (`Below`), so the hypothesis on the final clock is
  used once, at the end of the run.
-/
import BVM.Proofs.RtRules
namespace BVM

-- this file uses the model through the rules of Proofs/RtRules.lean only; `rfl` would otherwise unfold the callbacks
attribute [local irreducible] cbEnter cbClock cbFull preambleTs runSer closeBacks setBuf openWrite closeWrite cbOpen cbClose

/-! ### what no function changes (clock never goes back; `use_cur_last_event_ts` and
    `cur_last_event_ts` are only touched by `withUseCur` / the entry sample) -/

structure TFrame (s s' : St) : Prop where
  clock : s.p.clock ≤ s'.p.clock
  useCur : s'.c.useCurLastEventTs = s.c.useCurLastEventTs
  cur : s'.c.curLastEventTs = s.c.curLastEventTs

theorem TFrame.refl (s : St) : TFrame s s := ⟨Nat.le_refl _, rfl, rfl⟩
theorem TFrame.trans {a b c : St} (h1 : TFrame a b) (h2 : TFrame b c) : TFrame a c :=
  ⟨Nat.le_trans h1.clock h2.clock, h2.useCur.trans h1.useCur, h2.cur.trans h1.cur⟩

/-! ### the timestamps of a log -/

/-- newest value written to a timestamp position (0 if none) -/
def lastTs : List Ev → Nat
  | [] => 0
  | .tsWrite _ v :: _ => v
  | _ :: l => lastTs l

/-- the values written to timestamp positions are non-decreasing in write order -/
def sortedTs : List Ev → Prop
  | [] => True
  | .tsWrite _ v :: l => lastTs l ≤ v ∧ sortedTs l
  | _ :: l => sortedTs l

/-- not a timestamp write -/
def PNoTs (e : Ev) : Prop := ∀ k v, e ≠ .tsWrite k v

/-- not a timestamp write, except one of `v`, and that only if `b` -/
def PTs (b : Bool) (v : Nat) (e : Ev) : Prop := ∀ k w, e = .tsWrite k w → b = true ∧ w = v

theorem PNoTs.ts {b : Bool} {v : Nat} (e : Ev) (h : PNoTs e) : PTs b v e := fun k w he => absurd he (h k w)

/-- new events that write `v` at most: what bounds the old timestamps and `v` bounds the new ones, and the log
    stays sorted if `v` is not below the old timestamps -/
theorem ts_log {b : Bool} {v : Nat} (new old : List Ev) (h : ∀ e ∈ new, PTs b v e) :
    (∀ x, lastTs old ≤ x → (b = true → v ≤ x) → lastTs (new ++ old) ≤ x) ∧
    ((b = true → lastTs old ≤ v) → sortedTs old → sortedTs (new ++ old)) := by
  induction new with
  | nil => exact ⟨fun _ h1 _ => h1, fun _ hs => hs⟩
  | cons e es ih =>
    obtain ⟨i1, i2⟩ := ih fun x hx => h x (by simp [hx])
    cases e
    case tsWrite k w =>
      obtain ⟨hb, rfl⟩ := h _ (by simp) k w rfl
      exact ⟨fun x _ h2 => h2 hb, fun hv hs => ⟨i1 w (hv hb) fun _ => Nat.le_refl _, i2 hv hs⟩⟩
    all_goals exact ⟨i1, i2⟩

/-! ### steps that write no timestamp, steps that write one -/

/-- a step that writes no timestamp, with its frame facts -/
structure TQ (s s' : St) : Prop where
  fr : TFrame s s'
  ext : Ext PNoTs s s'

/-- a step that writes nothing to a timestamp position but `v`, and `v` only if `b` -/
structure TS (b : Bool) (v : Nat) (s s' : St) : Prop where
  fr : TFrame s s'
  ext : Ext (PTs b v) s s'

theorem TQ.trans {a b c : St} (h1 : TQ a b) (h2 : TQ b c) : TQ a c := ⟨h1.fr.trans h2.fr, h1.ext.trans h2.ext⟩

/-- a setter of a field other than the clock and the two timestamp fields of the context -/
theorem TQ.set {s s' : St} (hl : s'.log = s.log) (hp : s'.p = s.p)
    (hu : s'.c.useCurLastEventTs = s.c.useCurLastEventTs) (hc : s'.c.curLastEventTs = s.c.curLastEventTs) : TQ s s' :=
  ⟨⟨Nat.le_of_eq (congrArg Plat.clock hp.symm), hu, hc⟩, Ext.of_log_eq hl⟩

theorem TQ.setFlag (s : St) (b : Bool) : TQ s (s.setFlag b) := .set rfl rfl rfl rfl

theorem TQ.ev (s : St) (e : Ev) (h : PNoTs e := by exact fun _ _ => nofun) : TQ s (s.ev e) :=
  ⟨⟨Nat.le_refl _, rfl, rfl⟩, Ext.ev s e h⟩

theorem TQ.ts {b : Bool} {v : Nat} {s s' : St} (h : TQ s s') : TS b v s s' := ⟨h.fr, h.ext.mono PNoTs.ts⟩

theorem TS.trans {b : Bool} {v : Nat} {s₁ s₂ s₃ : St} (h1 : TS b v s₁ s₂) (h2 : TS b v s₂ s₃) : TS b v s₁ s₃ :=
  ⟨h1.fr.trans h2.fr, h1.ext.trans h2.ext⟩

/-- the one place of a writing function where a timestamp is logged -/
theorem TS.write {b : Bool} (hb : b = true) (k : String) (v : Nat) (s : St) : TS b v s (s.ev (.tsWrite k v)) := by
  refine ⟨⟨Nat.le_refl _, rfl, rfl⟩, Ext.ev s _ fun _ _ he => ?_⟩
  cases he
  exact ⟨hb, rfl⟩

theorem TS.lastTs_le {b : Bool} {v x : Nat} {s s' : St} (h : TS b v s s') (h1 : lastTs s.log ≤ x)
    (h2 : b = true → v ≤ x) : lastTs s'.log ≤ x := by
  obtain ⟨new, hl, hq⟩ := h.ext
  rw [hl]
  exact (ts_log new s.log hq).1 x h1 h2

theorem PCb.noTs {f : Bool} (e : Ev) (h : PCb f e) : PNoTs e := by
  intro k v he
  subst he
  exact h

theorem PSer.noTs {f : Bool} (e : Ev) (h : PSer f e) : PNoTs e := by
  intro k v he
  subst he
  exact h

theorem Plumb.tq {s s' : St} (h : Plumb s s') : TQ s s' :=
  ⟨⟨h.clock, (congrArg Ctx.useCurLastEventTs h.ctx :), (congrArg Ctx.curLastEventTs h.ctx :)⟩, h.log.mono PCb.noTs⟩

theorem SerStep.tq {s s' : St} (h : SerStep s s') : TQ s s' :=
  ⟨⟨Nat.le_of_eq (congrArg Plat.clock h.p.symm), (congrArg Ctx.useCurLastEventTs h.ctx :),
    (congrArg Ctx.curLastEventTs h.ctx :)⟩, h.log.mono PSer.noTs⟩

theorem setBuf_tq (bytes : Nat) (s : St) : TQ s (setBuf bytes s) := by
  obtain ⟨hc, hp, hl, _⟩ := setBuf_frame bytes s
  exact .set hl hp (congrArg Ctx.useCurLastEventTs hc :) (congrArg Ctx.curLastEventTs hc :)

theorem noSpace_tq (cf : Bool) (s : St) : TQ s (noSpace cf s).2 :=
  (TQ.ev s (.discard cf)).trans (.set rfl rfl rfl rfl)

section
variable (cfg : Cfg) (d : DST)

theorem openWrite_ts (args : Args) (ts : Nat) (saved : Bool) (s : St) :
    TS d.feat.tsBegin.isSome ts s (openWrite cfg d args ts saved s) :=
  openWrite_rule (P₂ := TS _ ts s) s (TQ.ts (TQ.trans (b := s.setAt 0) (.set rfl rfl rfl rfl) (runSer_step _ _).tq))
    (fun _ h _ => h) (fun s₁ h hb => h.trans (.write hb "begin" ts s₁))
    fun s₁ h _ => h.trans (TQ.ts ((TQ.ev s₁ (.opened _)).trans (.set rfl rfl rfl rfl)))

theorem closeWrite_ts (ts : Nat) (saved : Bool) (s : St) :
    TS d.feat.tsEnd.isSome ts s (closeWrite cfg d ts saved s) :=
  closeWrite_rule (P₂ := TS _ ts s) s
    (TQ.ts (TQ.trans (b := s.setContentSize s.c.at_) (.set rfl rfl rfl rfl) (closeBacks_step cfg d ts _).tq))
    (fun _ h _ => h) (fun s₁ h hb => h.trans (.write hb "end" ts s₁))
    fun s₁ h _ => h.trans (TQ.ts ((TQ.ev s₁ (.closed _ _ _)).trans (.set rfl rfl rfl rfl)))

theorem traceStore_ts (e : ERT) (args : Args) (s : St) :
    TS d.feat.erTs.isSome s.c.curLastEventTs s (traceStore cfg d e args s) :=
  traceStore_rule (P₂ := TS _ s.c.curLastEventTs s) s (runSer_step _ s).tq.ts (fun _ h _ => h)
    (fun s₁ h hb => by
      rw [h.fr.cur]
      exact h.trans (.write hb "rec" _ s₁))
    fun s₁ h _ => h.trans (TQ.ev s₁ (.recDone _ _ _)).ts

/-! ### the frame facts of the callbacks and of `_reserve_er_space` -/

theorem callbacks_tf (s₀ : St) :
    (∀ s, TFrame s₀ s → TFrame s₀ (cbOpen cfg d s)) ∧ (∀ s, TFrame s₀ s → TFrame s₀ (cbClose cfg d s)) :=
  callbacks_keep (fun _ _ h hp => h.trans hp.tq.fr) (fun s b h => h.trans (TQ.setFlag s b).fr)
    (fun args ts saved s h _ _ => h.trans (openWrite_ts cfg d args ts saved s).fr)
    (fun ts saved s h _ => h.trans (closeWrite_ts cfg d ts saved s).fr)
    (fun _ _ h => h.trans ⟨Nat.le_refl _, rfl, rfl⟩) fun _ b s h _ => h.trans (setBuf_tq b s).fr

theorem cbOpen_tf (s : St) : TFrame s (cbOpen cfg d s) := (callbacks_tf cfg d s).1 s (TFrame.refl s)
theorem cbClose_tf (s : St) : TFrame s (cbClose cfg d s) := (callbacks_tf cfg d s).2 s (TFrame.refl s)

/-- frame facts of the functions of `_reserve_er_space`, which leave `use_cur_last_event_ts` at 0 -/
structure TFrame0 (s s' : St) : Prop where
  clock : s.p.clock ≤ s'.p.clock
  useCur : s'.c.useCurLastEventTs = false
  cur : s'.c.curLastEventTs = s.c.curLastEventTs

theorem TFrame0.trans {a b c : St} (h1 : TFrame0 a b) (h2 : TFrame0 b c) : TFrame0 a c :=
  ⟨Nat.le_trans h1.clock h2.clock, h2.useCur, h2.cur.trans h1.cur⟩
theorem TFrame0.step {a b c : St} (h1 : TFrame0 a b) (h2 : TFrame b c) : TFrame0 a c :=
  ⟨Nat.le_trans h1.clock h2.clock, h2.useCur.trans h1.useCur, h2.cur.trans h1.cur⟩

theorem withUseCur_tf0 {f : St → St} (hf : ∀ s, TFrame s (f s)) (s : St) : TFrame0 s (withUseCur f s) :=
  ⟨(hf (s.setUseCur true)).clock, rfl, (hf (s.setUseCur true)).cur⟩

theorem reserve_tf0 (erSize emptySize : Nat) (s : St) (hu : s.c.useCurLastEventTs = false) :
    TFrame0 s (reserve cfg d erSize emptySize s).2 :=
  reserve_rule (I := TFrame0 s) (R := fun r => TFrame0 s r.2) (fun s' h => h.step (cbFull_plumb s').tq.fr)
    (fun s' h => h.trans (withUseCur_tf0 (cbOpen_tf cfg d) s')) (fun s' h => h.trans (withUseCur_tf0 (cbClose_tf cfg d) s'))
    (fun s' h _ => (h.step (cbFull_plumb s').tq.fr).step (noSpace_tq false _).fr) (fun _ h _ => h) (fun _ h => h)
    s ⟨Nat.le_refl _, hu, rfl⟩ fun _ => ⟨Nat.le_refl _, hu, rfl⟩

/-! ### the timestamp invariant -/

/-- the unwrapped clock bounds everything written so far -/
structure TInv (s : St) : Prop where
  ts : lastTs s.log ≤ s.p.clock
  cur : s.c.curLastEventTs ≤ s.p.clock
  sorted : sortedTs s.log

/-- invariant between public API calls -/
def TTop (s : St) : Prop := TInv s ∧ s.c.useCurLastEventTs = false

/-- while a tracing function reserves space for its record, from its clock sample to the record's serialisation:
    nothing newer than that sample was written -/
def TRes (s : St) : Prop := TTop s ∧ lastTs s.log ≤ s.c.curLastEventTs

/-- inside the two callbacks, whoever calls them: under `use_cur_last_event_ts` (the call comes from
    `_reserve_er_space`) nothing newer than the record's sample was written -/
def TCb (s : St) : Prop := TInv s ∧ (s.c.useCurLastEventTs = true → lastTs s.log ≤ s.c.curLastEventTs)

/-- `TCb`, and if `b` then `v` may be written to a timestamp position: it is not below what was written, not
    above the clock and, under `use_cur_last_event_ts`, not above the record's sample, which is written after it -/
def TWith (b : Bool) (v : Nat) (s : St) : Prop :=
  TCb s ∧ (b = true → lastTs s.log ≤ v ∧ v ≤ s.p.clock ∧ (s.c.useCurLastEventTs = true → v ≤ s.c.curLastEventTs))

theorem TInv.setUseCur {s : St} (h : TInv s) (b : Bool) : TInv (s.setUseCur b) := ⟨h.ts, h.cur, h.sorted⟩

theorem TTop.cb {s : St} (h : TTop s) : TCb s := ⟨h.1, fun hu => by rw [h.2] at hu; cases hu⟩

/-- the record's own timestamp is its sample -/
theorem TRes.with {s : St} (h : TRes s) (b : Bool) : TWith b s.c.curLastEventTs s :=
  ⟨h.1.cb, fun _ => ⟨h.2, h.1.1.cur, fun _ => Nat.le_refl _⟩⟩

theorem TS.cb {b : Bool} {v : Nat} {s s' : St} (h : TS b v s s') (hw : TWith b v s) : TCb s' := by
  obtain ⟨ht, hv⟩ := hw
  refine ⟨⟨Nat.le_trans (h.lastTs_le ht.1.ts fun hb => (hv hb).2.1) h.fr.clock, ?_, ?_⟩, fun hu => ?_⟩
  · rw [h.fr.cur]
    exact Nat.le_trans ht.1.cur h.fr.clock
  · obtain ⟨new, hl, hq⟩ := h.ext
    rw [hl]
    exact (ts_log new s.log hq).2 (fun hb => (hv hb).1) ht.1.sorted
  · rw [h.fr.useCur] at hu
    rw [h.fr.cur]
    exact h.lastTs_le (ht.2 hu) fun hb => (hv hb).2.2 hu

theorem TQ.cb {s s' : St} (h : TQ s s') (ht : TCb s) : TCb s' := (h.ts (b := false) (v := 0)).cb ⟨ht, nofun⟩
theorem TQ.top {s s' : St} (h : TQ s s') (ht : TTop s) : TTop s' := ⟨(h.cb ht.cb).1, h.fr.useCur.trans ht.2⟩
theorem TQ.res {s s' : St} (h : TQ s s') (hr : TRes s) : TRes s' :=
  ⟨h.top hr.1, by rw [h.fr.cur]; exact (h.ts (b := false) (v := 0)).lastTs_le hr.2 nofun⟩

/-- `P`, as long as the clock is below `W`.  The clock never goes back, so a step keeps `Below W P` as soon as it
    keeps `P`: a bound on the clock at the end of a run need not be carried back through it. -/
def Below (W : Nat) (P : St → Prop) (s : St) : Prop := s.p.clock < W → P s

section below
variable {W : Nat}

theorem Below.mono {P Q : St → Prop} {s : St} (h : Below W P s) (hpq : P s → Q s) : Below W Q s := fun hw => hpq (h hw)

theorem TQ.below {P : St → Prop} {s s' : St} (h : TQ s s') (hP : ∀ {s s'}, TQ s s' → P s → P s') (hb : Below W P s) :
    Below W P s' :=
  fun hw => hP h (hb (Nat.lt_of_le_of_lt h.fr.clock hw))

theorem TS.below {b : Bool} {v : Nat} {s s' : St} (h : TS b v s s') (hb : Below W (TWith b v) s) : Below W TCb s' :=
  fun hw => h.cb (hb (Nat.lt_of_le_of_lt h.fr.clock hw))

/-- between API calls, a step that keeps `TCb` and the frame keeps `TTop` -/
theorem Below.top {s s' : St} (hb : Below W TTop s) (hf : TFrame s s') (ht : Below W TCb s') : Below W TTop s' :=
  fun hw => ⟨(ht hw).1, hf.useCur.trans (hb (Nat.lt_of_le_of_lt hf.clock hw)).2⟩

/-- a callback called between API calls, or by `_commit_er` -/
theorem top_of_cb {f : St → St} (hf : ∀ s, Below W TCb s → Below W TCb (f s)) (hfr : ∀ s, TFrame s (f s)) :
    ∀ s, Below W TTop s → Below W TTop (f s) :=
  fun s h => h.top (hfr s) (hf s (h.mono TTop.cb))

/-- a callback called by `_reserve_er_space`, under `use_cur_last_event_ts` -/
theorem withUseCur_t {f : St → St} (hf : ∀ s, Below W TCb s → Below W TCb (f s)) (hfr : ∀ s, TFrame s (f s)) :
    ∀ s, Below W TRes s → Below W TRes (withUseCur f s) :=
  withUseCur_rule (P₁ := fun s => Below W TCb s ∧ s.c.useCurLastEventTs = true)
    (Q₁ := fun s => Below W TCb s ∧ s.c.useCurLastEventTs = true)
    (fun _ h => ⟨fun hw => ⟨(h hw).1.1.setUseCur true, fun _ => (h hw).2⟩, rfl⟩)
    (fun s h => ⟨hf s h.1, (hfr s).useCur.trans h.2⟩)
    fun _ h hw => ⟨⟨(h.1 hw).1.setUseCur false, rfl⟩, (h.1 hw).2 h.2⟩

theorem traceStore_t (e : ERT) (args : Args) (s : St) (h : Below W TRes s) :
    Below W TTop (traceStore cfg d e args s) :=
  (h.mono And.left).top (traceStore_ts cfg d e args s).fr
    ((traceStore_ts cfg d e args s).below (h.mono fun hr => hr.with _))

end below

/-- hypotheses on the configuration: the timestamp features need the default clock -/
def ClockWF (d : DST) : Prop :=
  d.clock = none → d.feat.tsBegin = none ∧ d.feat.tsEnd = none ∧ d.feat.erTs = none

/-- the modulus of the clock's C type -/
def clkW (d : DST) : Nat :=
  match d.clock with
  | some c => 2 ^ c.ctype.width
  | none => 1

/-- the clock callback: a fresh value, equal to the (unwrapped) clock when that has not wrapped; so it bounds
    what was written -/
theorem cbClock_fresh {clk : Clock} (hclk : d.clock = some clk) (s : St) (hw : (cbClock clk s).2.p.clock < clkW d)
    (ht : TInv (cbClock clk s).2) :
    lastTs (cbClock clk s).2.log ≤ (cbClock clk s).1 ∧ (cbClock clk s).1 ≤ (cbClock clk s).2.p.clock := by
  have hv : (cbClock clk s).1 = (cbClock clk s).2.p.clock := by
    simp only [clkW, hclk] at hw
    unfold cbClock at hw ⊢
    exact Nat.mod_eq_of_lt hw
  rw [hv]
  exact ⟨ht.ts, Nat.le_refl _⟩

/-- the timestamp local of open/close: either the current record's sample (inside a tracing call) or
    a fresh one; in both cases nothing newer has been written and it does not exceed the clock -/
theorem preambleTs_t (ft : Option Scalar) (hwf : d.clock = none → ft = none) (s : St) (h : Below (clkW d) TCb s) :
    Below (clkW d) (TWith ft.isSome (preambleTs d ft s).1) (preambleTs d ft s).2 := by
  unfold preambleTs
  split
  · rename_i clk _ hc
    split
    · rename_i hu
      exact h.mono fun ht => ⟨ht, fun _ => ⟨ht.2 hu, ht.1.cur, fun _ => Nat.le_refl _⟩⟩
    · rename_i hu
      intro hw
      have ht := (cbClock_plumb clk s).tq.below TQ.cb h hw
      have hv := cbClock_fresh d hc s hw ht.1
      refine ⟨ht, fun _ => ⟨hv.1, hv.2, fun hu' => ?_⟩⟩
      rw [(cbClock_plumb clk s).tq.fr.useCur] at hu'
      exact absurd hu' hu
  · rename_i ft _ _ hno
    refine h.mono fun ht => ⟨ht, fun hb => ?_⟩
    cases ft with
    | none => cases hb
    | some x =>
      cases hc : d.clock with
      | none => cases hwf hc
      | some clk => exact (hno clk x hc rfl).elim

/-- the entry sample of a tracing function -/
theorem traceClock_t {clk : Clock} (hclk : d.clock = some clk) :
    ∀ s, Below (clkW d) TTop s → Below (clkW d) TRes (traceClock d s) :=
  traceClock_rule (fun _ _ hc => by rw [hclk] at hc; cases hc) fun clk' s h hc hw => by
    have ht : TTop (cbClock clk' s).2 := (cbClock_plumb clk' s).tq.below TQ.top h hw
    have hv := cbClock_fresh d hc s hw ht.1
    exact ⟨⟨⟨ht.1.ts, hv.2, ht.1.sorted⟩, ht.2⟩, hv.1⟩

variable (hwf : ClockWF d)
include hwf

theorem callbacks_t :
    (∀ s, Below (clkW d) TCb s → Below (clkW d) TCb (cbOpen cfg d s)) ∧
    (∀ s, Below (clkW d) TCb s → Below (clkW d) TCb (cbClose cfg d s)) := by
  have hpl : ∀ s s', Below (clkW d) TCb s → Plumb s s' → Below (clkW d) TCb s' := fun _ _ h hp => hp.tq.below TQ.cb h
  have hskip : ∀ b ts s, Below (clkW d) (TWith b ts) s → Below (clkW d) TCb (s.setFlag false) :=
    fun _ _ s h => (TQ.setFlag s false).below TQ.cb (h.mono And.left)
  exact ⟨cbOpen_rule (G := fun ts => Below (clkW d) (TWith d.feat.tsBegin.isSome ts)) (fun _ h _ => h)
      (fun s s' h _ hp => preambleTs_t d _ (fun hc => (hwf hc).1) s' (hpl s s' h hp))
      (fun ts s h _ _ => hskip _ ts s h) (fun _ _ h _ => h.mono And.left)
      (fun args ts s h _ _ => ((TQ.setFlag s true).ts.trans (openWrite_ts cfg d args ts _ _)).below h) hpl,
    cbClose_rule (G := fun ts => Below (clkW d) (TWith d.feat.tsEnd.isSome ts)) (fun _ h _ => h)
      (fun s s' h _ hp => preambleTs_t d _ (fun hc => (hwf hc).2.1) s' (hpl s s' h hp))
      (fun ts s h _ _ => hskip _ ts s h) (fun _ _ h _ => h.mono And.left)
      (fun ts s h _ => ((TQ.setFlag s true).ts.trans (closeWrite_ts cfg d ts _ _)).below h)
      fun w _ => deliverAndSwap_rule (fun _ h _ => h) (fun s h => (TQ.ev s (.deliver s.buf w s.c.packetIsOpen)).below TQ.cb h)
        (fun b s h _ => (setBuf_tq b s).below TQ.cb h) hpl⟩

theorem trace_t {clk : Clock} (hclk : d.clock = some clk) (e : ERT) (args : Args) :
    ∀ s, Below (clkW d) TTop s → Below (clkW d) TTop (trace cfg d e args s) :=
  trace_rule (J₁ := Below (clkW d) TRes) (fun s h _ => traceClock_t d hclk s h)
    (traceBody_rule (I := Below (clkW d) TRes)
      (fun s h _ => (TQ.ev s (.traceCall _ _)).below TQ.top (h.mono And.left))
      (fun s h _ => ((TQ.ev s (.traceCall _ _)).trans (TQ.setFlag _ true)).below TQ.res h)
      (traceEnabled_rule (X := Below (clkW d) TTop) (fun s h => (cbFull_plumb s).tq.below TQ.res h)
        (withUseCur_t (callbacks_t cfg d hwf).1 (cbOpen_tf cfg d)) (withUseCur_t (callbacks_t cfg d hwf).2 (cbClose_tf cfg d))
        (fun cf s h => (noSpace_tq cf s).below TQ.top (h.mono And.left)) (fun _ h _ => h.mono And.left)
        (fun s h _ _ => traceStore_t cfg d e args s h)
        (fun s h _ => top_of_cb (callbacks_t cfg d hwf).2 (cbClose_tf cfg d) s h)
        (fun _ h _ => h) fun s h _ => (TQ.setFlag s false).below TQ.top h))

end

theorem runOps_t (cfg : Cfg) (d : DST) (clk : Clock) (hclk : d.clock = some clk) (hwf : ClockWF d) (ops : List Op)
    (s : St) (hw : (runOps cfg d ops s).p.clock < clkW d) (hi : TTop s) : TTop (runOps cfg d ops s) :=
  runOps_rule (J := Below (clkW d) TTop)
    ⟨top_of_cb (callbacks_t cfg d hwf).1 (cbOpen_tf cfg d), top_of_cb (callbacks_t cfg d hwf).2 (cbClose_tf cfg d)⟩
    (fun _ args e _ _ _ => trace_t cfg d hwf hclk e args)
    (fun b _ s h => TQ.below (s := s) (s' := s.setEnabled b) (.set rfl rfl rfl rfl) TQ.top h)
    (fun name s h _ => (TQ.ev s (.ret name s.c s.buf.length)).below TQ.top h) s (fun _ => hi) hw

end BVM
