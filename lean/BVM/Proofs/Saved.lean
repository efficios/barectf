/-
  Proofs/Saved.lean — the offsets the packet opening function saves for the fields the closing function writes back
  (`sctx->off_<name>`: content size, end timestamp, discarded counter):

    * writes that are not skip-and-save writes leave the saved offsets alone (every root of an event record);
    * after the packet context has been serialised inside the buffer, every skipped field has a saved offset `off`
      with `off + size ≤` the end of the packet context, and the start bit the operation builder attached to the
      field's write operation is `off % 8` (`SavedOK`): what the write-backs of the closing function need.
-/
import BVM.Proofs.SizeSer
namespace BVM

def WSrc.isSkip : WSrc → Bool
  | .skipSave _ => true
  | _ => false

def EOp.noSkip : EOp → Bool
  | .leaf _ w => !w.src.isSkip
  | .loop _ _ b => b.noSkip

def MOp.noSkip : MOp → Bool
  | .el _ e => e.noSkip
  | .dloop _ _ _ b => b.noSkip

theorem EOp.noSkip_iff : ∀ op : EOp, op.noSkip = true ↔ op.All (·.src.isSkip = false)
  | .leaf _ w => by simp [EOp.noSkip, EOp.All]
  | .loop _ _ b => EOp.noSkip_iff b

theorem MOp.noSkip_iff (m : MOp) : m.noSkip = true ↔ m.All (·.src.isSkip = false) := by
  cases m <;> exact EOp.noSkip_iff _

theorem saved_kept (σ : List (String × Nat)) : Kept fun s => s.saved = σ :=
  ⟨fun _ _ h => h, fun _ _ h => h, fun s b n nb _ h => (store_saved s b n nb).trans h⟩

theorem writeBits_saved (env : SerEnv) (sc : Scalar) (o : Option Nat) (v : Int) (s : SerSt) :
    (writeBits env sc o v s).saved = s.saved := (saved_kept _).writeBits env sc o v rfl

theorem serRoot_saved (env : SerEnv) (pfx : String) (args : Args) (r : RootOp) (h : ∀ m ∈ r.members, m.noSkip = true)
    (s : SerSt) : (serRoot env pfx r args s).saved = s.saved :=
  (saved_kept s.saved).serRoot_all env (fun w n _ hq e _ => by rw [e] at hq; cases hq) pfx r args
    (fun m hm => m.noSkip_iff.mp (h m hm)) s rfl

/-- a template table without skip-and-save templates (`specERH`, `specNone`) -/
def SpecNoSkip (spec : String → Option WSrc) : Prop := ∀ n, ((spec n).getD .arg).isSkip = false

theorem buildMember_noSkip (spec : String → Option WSrc) (hs : SpecNoSkip spec) (m : Member) (oib : Option Nat) :
    (buildMember spec m oib).1.noSkip = true := by
  have el : ∀ e src level o, src.isSkip = false → (buildElem src e level o).1.All (·.src.isSkip = false) :=
    fun e src level o h => buildElem_all (fun _ _ => rfl) e src level o (fun _ _ => h)
  obtain ⟨name, ft⟩ := m
  refine (MOp.noSkip_iff _).mpr ?_
  match ft with
  | .el (.sc sc) => exact el (.sc sc) _ 0 oib (hs name)
  | .el (.sarr n e) => exact el (.sarr n e) .arg 0 oib rfl
  | .darr ln e => exact el e .arg 1 _ rfl
  | .uuid => exact (rfl : WSrc.uuid.isSkip = false)

theorem buildRoot_noSkip (spec : String → Option WSrc) (hs : SpecNoSkip spec) (S : Struct) :
    ∀ m ∈ (buildRoot spec S).members, m.noSkip = true := fun x hx => by
  obtain ⟨m, _, o, rfl⟩ := buildMembers_mem spec S.members _ x hx
  exact buildMember_noSkip spec hs m o

theorem specNone_noSkip : SpecNoSkip specNone := fun _ => rfl

theorem specERH_noSkip : SpecNoSkip specERH := by
  intro n
  unfold specERH
  split <;> rfl

theorem serRecord_saved (env : SerEnv) (d : DST) (e : ERT) (args : Args) (s : SerSt) :
    (serRecord env d e args s).saved = s.saved :=
  serRecord_keeps (P := fun t => t.saved = s.saved) env d e args
    (fun t ht => (serRoot_saved env "h" [] _ (buildRoot_noSkip specERH specERH_noSkip _) t).trans ht)
    (fun pfx S t ht => (serRoot_saved env pfx args _ (buildRoot_noSkip specNone specNone_noSkip S) t).trans ht) s rfl

/-- what the write-backs of the closing function need of the saved offset of each skipped first-level field of `ops`:
    the field lies below `hi`, and the start bit attached to its write operation is the saved offset's -/
def SavedOK (ops : List MOp) (saved : List (String × Nat)) (hi : Nat) : Prop :=
  ∀ n w, findWrite n ops = some w → w.src.isSkip = true →
    ∃ off, saved.lookup n = some off ∧ off + w.sc.size ≤ hi ∧ OibOK w.oib off

theorem SavedOK.mono {ops : List MOp} {saved : List (String × Nat)} {hi hi' : Nat} (h : SavedOK ops saved hi)
    (hle : hi ≤ hi') : SavedOK ops saved hi' := by
  intro n w hf hs
  obtain ⟨off, h1, h2, h3⟩ := h n w hf hs
  exact ⟨off, h1, Nat.le_trans h2 hle, h3⟩

/-- skip-and-save templates save under the member's own name -/
def SpecKey (spec : String → Option WSrc) : Prop := ∀ n k, spec n = some (.skipSave k) → k = n

theorem specPC_key : SpecKey specPC := by
  intro n k h
  unfold specPC at h
  split at h <;> first | (cases h; done) | (cases h; rfl)

/-- the first-level write found under a name is the one built for the first scalar or UUID member of that name -/
theorem findWrite_cons_build (spec : String → Option WSrc) (n : String) (m : Member) (oib : Option Nat) (ops : List MOp) :
    findWrite n ((buildMember spec m oib).1 :: ops) =
      match m.ft with
      | .el (.sc sc) =>
        if m.name = n then some ⟨(spec m.name).getD .arg, sc, (tryAlign false oib sc.align).1⟩ else findWrite n ops
      | .uuid => if m.name = n then some ⟨.uuid, .str, (tryAlign false oib 8).1⟩ else findWrite n ops
      | _ => findWrite n ops := by
  obtain ⟨name, ft⟩ := m
  match ft with
  | .el (.sc sc) => rfl
  | .el (.sarr k e) => rfl
  | .darr ln e => rfl
  | .uuid => rfl

/-- the write operation of a first-level member takes its value from the member's template -/
theorem findWrite_src (spec : String → Option WSrc) (n : String) (w : Write) :
    ∀ (ms : List Member) (oib : Option Nat), (∀ m ∈ ms, m.ft ≠ .uuid) →
      findWrite n (buildMembers spec ms oib).1 = some w → w.src = (spec n).getD .arg
  | [], _, _, h => by cases h
  | m :: ms, oib, hnu, h => by
    have ih := findWrite_src spec n w ms (buildMember spec m oib).2 (fun x hx => hnu x (by simp [hx]))
    simp only [buildMembers, findWrite_cons_build] at h
    split at h
    · split at h
      · cases h; rename_i e; rw [← e]
      · exact ih h
    · rename_i e; exact absurd e (hnu m (by simp))
    · exact ih h

theorem SpecKey.getD {spec : String → Option WSrc} (hk : SpecKey spec) {n k : String}
    (h : (spec n).getD .arg = .skipSave k) : k = n := by
  cases hs : spec n with
  | none => rw [hs] at h; cases h
  | some x => rw [hs] at h; exact hk n k (hs.trans (congrArg some h))

/-- a member whose skip-and-save writes all save under other names leaves the offset saved under `n` alone -/
theorem serMember_lookup (env : SerEnv) (pfx : String) (args : Args) (m : MOp) (n : String)
    (h : m.All fun w => ∀ k, w.src = .skipSave k → k ≠ n) (s : SerSt) :
    (serMember env pfx args m s).saved.lookup n = s.saved.lookup n :=
  have K : Kept fun t => t.saved.lookup n = s.saved.lookup n :=
    ⟨fun _ _ h => h, fun _ _ h => h, fun t b c nb _ h => by rw [store_saved]; exact h⟩
  K.serMember env (fun w k t hq e ht => by
    have : (n == k) = false := by simpa using (hq k e).symm
    simpa [List.lookup_cons, this] using ht) pfx args m h s rfl

/-- a built member saves under its own name only -/
theorem buildMember_keys (spec : String → Option WSrc) (hk : SpecKey spec) (m : Member) (oib : Option Nat) :
    (buildMember spec m oib).1.All fun w => ∀ k, w.src = .skipSave k → k = m.name := by
  have el : ∀ e src level o, (∀ k, src = .skipSave k → k = m.name) →
      (buildElem src e level o).1.All fun w => ∀ k, w.src = .skipSave k → k = m.name :=
    fun e src level o h => buildElem_all (fun _ _ _ e => by cases e) e src level o (fun _ _ => h)
  obtain ⟨name, ft⟩ := m
  match ft with
  | .el (.sc sc) => exact el (.sc sc) _ 0 oib (fun k h => hk.getD h)
  | .el (.sarr n e) => exact el (.sarr n e) .arg 0 oib (fun _ e => by cases e)
  | .darr ln e => exact el e .arg 1 _ (fun _ e => by cases e)
  | .uuid => exact fun _ e => by cases e

/-- Induction over the members the builder walks, carrying three facts: a name no member bears keeps the offset saved
    under it; `SavedOK` at the position reached; the position only grows.  Names must be distinct because `findWrite`
    returns the first member of a name while `lookup` returns the newest offset saved under it: only then are both
    the same member, and the first fact keeps its offset through the members that follow. -/
theorem members_saved (env : SerEnv) (L A : Nat) (hsmall : 8 * L + A ≤ 2 ^ 32)
    (spec : String → Option WSrc) (hk : SpecKey spec) (pfx : String) (args : Args) :
    ∀ (ms : List Member) (oib : Option Nat) (s : SerSt),
      (ms.map (·.name)).Nodup →
      (∀ m ∈ ms, m.ft.AlOK ∧ SpecWF spec m ∧ specOK spec m ∧ m.ft.align ≤ A) →
      OibOK oib s.at_ → s.buf.length = L → s.oob = false →
      ms.foldl (fun a m => memberEndS spec pfx args m a) s.at_ ≤ 8 * L →
      (∀ n, n ∉ ms.map (·.name) →
        ((buildMembers spec ms oib).1.foldl (fun a m => serMember env pfx args m a) s).saved.lookup n = s.saved.lookup n) ∧
      SavedOK (buildMembers spec ms oib).1
        ((buildMembers spec ms oib).1.foldl (fun a m => serMember env pfx args m a) s).saved
        ((buildMembers spec ms oib).1.foldl (fun a m => serMember env pfx args m a) s).at_ ∧
      s.at_ ≤ ((buildMembers spec ms oib).1.foldl (fun a m => serMember env pfx args m a) s).at_
  | [], oib, s, _, _, _, _, _, _ => by
    refine ⟨fun _ _ => rfl, ?_, Nat.le_refl _⟩
    intro n w hf _; cases hf
  | m :: ms, oib, s, hnd, hms, hoib, hlen, h0, hfit => by
    obtain ⟨hal, hwf, hsp, hA⟩ := hms m (by simp)
    rw [List.foldl_cons] at hfit
    have hfit1 : memberEndS spec pfx args m s.at_ ≤ 8 * L :=
      Nat.le_trans (memberEndS_fold_mono spec pfx args ms (fun x hx => (hms x (by simp [hx])).1.pos) _) hfit
    -- the member itself: written as its plain form, inside the buffer; the static offset stays truthful
    obtain ⟨hb1, hb2⟩ := buildMember_ok env pfx args spec m oib s hal hsp hoib
    have hin := member_in_bounds_S env L A hsmall spec pfx args m hwf hA hal.pos s hlen h0 hfit1
    rw [← buildMember_erase spec m oib, ← hb1] at hin
    obtain ⟨hnotin, hnd'⟩ := List.nodup_cons.mp hnd
    obtain ⟨ih1, ih2, ih3⟩ := members_saved env L A hsmall spec hk pfx args ms (buildMember spec m oib).2
      (serMember env pfx args (buildMember spec m oib).1 s) hnd' (fun x hx => hms x (by simp [hx])) hb2 hin.2.2 hin.1
      (by rw [hin.2.1]; exact hfit)
    have hmono1 : s.at_ ≤ (serMember env pfx args (buildMember spec m oib).1 s).at_ :=
      hin.2.1 ▸ memberEndS_mono spec pfx args m hal.pos _
    simp only [buildMembers, List.foldl_cons]
    refine ⟨fun n hn => ?_, fun n w hf hs => ?_, Nat.le_trans hmono1 ih3⟩
    · simp only [List.map_cons, List.mem_cons, not_or] at hn
      rw [ih1 n hn.2]
      exact serMember_lookup env pfx args _ n ((buildMember_keys spec hk m oib).mono fun w h k e => h k e ▸ Ne.symm hn.1) s
    · rw [findWrite_cons_build] at hf
      obtain ⟨name, ft⟩ := m
      cases ft with
      | darr ln e => exact ih2 n w hf hs
      | uuid =>
        dsimp only at hf
        by_cases hnm : name = n
        · rw [if_pos hnm] at hf; cases hf; cases hs
        · rw [if_neg hnm] at hf; exact ih2 n w hf hs
      | el e =>
        cases e with
        | sarr k e => exact ih2 n w hf hs
        | sc sc =>
          dsimp only at hf
          by_cases hnm : name = n
          · rw [if_pos hnm] at hf
            cases hf
            subst hnm
            -- the template is a skip-and-save one, keyed by the member's name: this member saved its own offset
            match hsrc : (spec name).getD .arg, hs with
            | .skipSave k, _ =>
              obtain rfl := hk.getD hsrc
              have hge := alignNat_ge s.at_ sc.align hal.pos
              rw [memberEndS_sc, hsrc] at hfit1 hin
              have hat := serAlign_alOp sc.align { s with leaves := args.get (pfx ++ "_" ++ k) } hal.pos
                (by show s.at_ + sc.align ≤ _; have : sc.align ≤ A := hA; omega)
              refine ⟨alignNat s.at_ sc.align, ?_, Nat.le_trans (Nat.le_of_eq hin.2.1.symm) ih3, ?_⟩
              · rw [ih1 k hnotin]
                simp only [buildMember, buildElem, serMember, serElem, hsrc, serWrite, List.lookup_cons, beq_self_eq_true]
                exact congrArg some hat
              · exact hat ▸ tryAlign_ok false oib sc.align { s with leaves := args.get (pfx ++ "_" ++ k) } hal (fun _ => hoib)
          · rw [if_neg hnm] at hf; exact ih2 n w hf hs

/-- after a root has been written inside the buffer, every first-level field its templates skipped has a saved offset
    below the end of the buffer, with a truthful start bit -/
theorem root_saved_ok (env : SerEnv) (L : Nat) (spec : String → Option WSrc) (hk : SpecKey spec) (pfx : String)
    (args : Args) (S : Struct) (s : SerSt) (hS : RootOKS spec S) (hnd : (S.members.map (·.name)).Nodup)
    (hsmall : 8 * L + S.align ≤ 2 ^ 32) (hlen : s.buf.length = L) (h0 : s.oob = false)
    (hfit : structEndS spec pfx args S s.at_ ≤ 8 * L) :
    SavedOK (buildRoot spec S).members (serRoot env pfx (buildRoot spec S) args s).saved (8 * L) := by
  have hin := root_in_bounds env spec pfx args S hS s L hsmall hlen h0 hfit
  have hge := alignNat_ge s.at_ S.align hS.align_pos
  have hmono := memberEndS_fold_mono spec pfx args S.members (fun m hm => (hS.members m hm).1.pos) (alignNat s.at_ S.align)
  have hat := serAlign_alOp S.align s hS.align_pos (by unfold structEndS at hfit; omega)
  have h := members_saved env L S.align hsmall spec hk pfx args S.members (tryAlign false none S.align).1
    (serAlign (alOp S.align) s) hnd
    (fun m hm => ⟨(hS.members m hm).1, (hS.members m hm).2.1, (hS.members m hm).2.2, member_align_le _ m hm⟩)
    (tryAlign_ok false none S.align s hS.pow2 (fun _ => OibOK_none _)) (by rw [serAlign_buf]; exact hlen)
    (by rw [serAlign_oob]; exact h0) (by rw [hat]; exact hfit)
  exact h.2.1.mono (by rw [← hin.2.1] at hfit; exact hfit)

/-- **after the packet context has been written inside the buffer, the closing function's write-backs are prepared**:
    every skipped field has a saved offset below the end of the buffer, with a truthful start bit -/
theorem pc_saved_ok (env : SerEnv) (L : Nat) (d : DST) (args : Args) (s : SerSt) (hS : RootOKS specPC d.pcStruct)
    (hnd : (d.pcStruct.members.map (·.name)).Nodup) (hsmall : 8 * L + d.pcStruct.align ≤ 2 ^ 32)
    (hlen : s.buf.length = L) (h0 : s.oob = false) (hfit : structEndS specPC "pc" args d.pcStruct s.at_ ≤ 8 * L) :
    SavedOK d.pcOp.members (serRoot env "pc" d.pcOp args s).saved (8 * L) :=
  root_saved_ok env L specPC specPC_key "pc" args d.pcStruct s hS hnd hsmall hlen h0 hfit

end BVM
