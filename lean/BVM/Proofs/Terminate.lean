/-
  Proofs/Terminate.lean — the inclusion recursion is bounded: with `N` files in the inclusion directories,
  `procInclude` never needs more than `4 * (N - |stack|) + depth kind + 1` units of fuel, whatever the
  documents contain (the inclusion stack holds distinct existing files, and the includable kinds nest at
  most four deep).  In other words the recursion of `_process_node_include` cannot be unbounded.
  The walk over `procInclude` uses the rules of `FR.Sat` (Proofs/Comb.lean) with "any error but `fuel`".
-/
import BVM.Proofs.Comb
namespace BVM

def NoFuel {α : Type} (r : FR α) : Prop := r ≠ .error .fuel

/-- `NoFuel` as an instance of `FR.Sat`, whose rules then apply -/
abbrev NF {α : Type} (x : FR α) : Prop := FR.Sat (· ≠ .fuel) x fun _ => True

theorem noFuel_iff {α : Type} {x : FR α} : NoFuel x ↔ NF x := by
  cases x with
  | ok a => exact ⟨fun _ => trivial, fun _ => nofun⟩
  | error e => exact ⟨fun h he => h (congrArg _ he), fun h he => h (Except.error.inj he)⟩

theorem foldlM_nofuel {α β : Type} (step : α → β → FR α) (h : ∀ a b, NoFuel (step a b)) :
    ∀ (l : List β) (a : α), NoFuel (l.foldlM step a) := fun l a =>
  noFuel_iff.mpr (FR.Sat.foldlM (fun _ _ => True) l a trivial fun a b _ _ => noFuel_iff.mp (h a b))

def Kind.depth : Kind → Nat
  | .trace => 4 | .traceType => 3 | .dst => 2 | .ert => 1 | .clockType => 1
  | .meta2 => 3 | .dst2 => 2 | .traceType2 => 1 | .clockType2 => 1 | .ert2 => 1

theorem child_depth_lt (kd : Kind) : ∀ cs ∈ kd.children, cs.2.ckind.depth < kd.depth := by
  cases kd <;> decide

theorem NF.childStep {rec : Kind → Y → FR Y} (m : KVs) (cs : String × ChildSpec)
    (h : ∀ c, NF (rec cs.2.ckind c)) : NF (childStep rec m cs) := by
  rw [childStep_eq]
  refine FR.Sat.modKey (fun _ => trivial) fun v _ => ?_
  obtain ⟨key, spec⟩ := cs
  cases spec with
  | single k' => exact h v
  | each k' =>
    cases v with
    | map cm =>
      exact (FR.Sat.mapVals (R := fun _ _ _ => True) cm fun kv _ => h kv.2).bind fun _ _ => trivial
    | _ => exact FErr.noConfusion

theorem NF.includePaths (inc : Y) : NF (includePaths inc) := by
  cases inc with
  | null => trivial
  | str s => trivial
  | seq xs =>
    refine (FR.Sat.mapM (P := fun _ => True) xs fun x _ => ?_).mono fun _ _ => trivial
    cases x with
    | str s => trivial
    | _ => exact FErr.noConfusion
  | _ => exact FErr.noConfusion

/-! ### the files of a world -/

def filesFrom : List (List (String × Y)) → Nat → List (Nat × String)
  | [], _ => []
  | d :: r, i => d.map (fun kv => (i, kv.1)) ++ filesFrom r (i + 1)

def World.files (W : World) : List (Nat × String) := filesFrom W.dirs 0

theorem findInDirs_mem (p : String) : ∀ (ds : List (List (String × Y))) (i di : Nat) (c : Y),
    findInDirs p ds i = some (di, c) → (di, p) ∈ filesFrom ds i
  | [], _, _, _, h => nomatch h
  | d :: r, i, di, c, h => by
    rw [findInDirs] at h
    rw [filesFrom, List.mem_append]
    split at h
    · cases h
      exact .inl (List.mem_map_of_mem (f := fun kv => (i, kv.1)) (kvGet_mem ‹_›))
    · exact .inr (findInDirs_mem p r (i + 1) di c h)

structure StackOK (W : World) (stack : Stack) : Prop where
  nodup : stack.Nodup
  sub : ∀ e ∈ stack, e ∈ W.files

theorem StackOK.length_le {W : World} {stack : Stack} (h : StackOK W stack) : stack.length ≤ W.files.length :=
  h.nodup.length_le_of_subset (fun e he => h.sub e he)

theorem StackOK.push {W : World} {stack : Stack} (h : StackOK W stack) (di : Nat) (p : String) (c : Y)
    (hf : findInDirs p W.dirs 0 = some (di, c)) (hn : (di, p) ∉ stack) : StackOK W ((di, p) :: stack) :=
  ⟨List.nodup_cons.mpr ⟨hn, h.nodup⟩, fun e he => by
    rcases List.mem_cons.mp he with rfl | he
    · exact findInDirs_mem p W.dirs 0 _ c hf
    · exact h.sub e he⟩

/-- the bound: a call on a child has one level of kinds less below it, a call on an included file has one more of the
    `N` files on its stack, so `fuel + 4 * |stack| - depth` never falls.  The factor 4 is slack: an included file is
    processed at the kind of the including object, so the depth does not start again, and the same two steps keep
    `N + depth < fuel + |stack|`. -/
theorem procInclude_bounded (W : World) : ∀ (fuel : Nat) (stack : Stack) (kd : Kind) (y : Y), StackOK W stack →
    4 * W.files.length + kd.depth < fuel + 4 * stack.length → NF (procInclude W fuel stack kd y)
  | 0, _, _, _, hs, h => by have := hs.length_le; omega
  | f + 1, stack, kd, y, hs, hb => by
    unfold procInclude
    cases y with
    | map m0 =>
      refine FR.Sat.bind (P := fun _ => True) ?_ fun m1 _ => ?_
      · -- the invariant of the fold only records that what is left to do are children of `kd`
        refine (FR.Sat.foldlM (fun l _ => ∀ c ∈ l, c ∈ kd.children) _ _ (fun _ h => h) fun a cs r hmem => ?_).mono
          fun _ _ => trivial
        have := child_depth_lt kd cs (hmem cs List.mem_cons_self)
        exact (NF.childStep a cs fun c => procInclude_bounded W f stack _ c hs (by omega)).mono
          fun _ _ c hc => hmem c (List.mem_cons_of_mem _ hc)
      · cases kvGet "$include" m1 with
        | none => trivial
        | some inc =>
          refine (NF.includePaths inc).bind fun paths _ => FR.Sat.bind (P := fun _ => True) ?_ fun _ _ => trivial
          refine FR.Sat.foldlM (fun _ _ => True) _ _ trivial fun base p _ _ => ?_
          refine (FR.Sat.inclStep (G := fun _ => True) nofun nofun (fun di c hf hn => ?_) (fun _ _ _ _ => trivial)
            fun _ _ => trivial).mono fun _ _ => trivial
          exact procInclude_bounded W f _ kd c (hs.push di p c hf hn) (by rw [List.length_cons]; omega)
    | _ => exact FErr.noConfusion

end BVM
