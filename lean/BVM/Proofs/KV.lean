/-
  Proofs/KV.lean — the ordered-dictionary operations of Model/Yaml.lean (`kvGet`, `kvSet`, `kvErase`, `kvKeys`) and
  `upsertWith` of Model/Patch.lean, with their lemmas stated once: what a lookup gives after each operation, what the
  key list becomes.  `kvSet` is an instance of `upsertWith` and `kvErase` is a `filter`, so one induction serves each pair.
-/
import BVM.Model.Patch
namespace BVM

@[simp] theorem kvGet_nil (k : String) : kvGet k [] = none := rfl
@[simp] theorem kvGet_cons (k k' : String) (v : Y) (r : KVs) :
    kvGet k ((k', v) :: r) = if k' = k then some v else kvGet k r := rfl

theorem kvKeys_cons (kv : String × Y) (r : KVs) : kvKeys (kv :: r) = kv.1 :: kvKeys r := rfl

/-- `kvGet` is core's `List.lookup` (which tests `k == k'` where `kvGet` tests `k' = k`) -/
theorem kvGet_eq_lookup (k : String) : ∀ m : KVs, kvGet k m = m.lookup k
  | [] => rfl
  | (k', v) :: r => by
    rw [kvGet_cons, List.lookup_cons, kvGet_eq_lookup k r]
    by_cases h : k' = k
    · rw [if_pos h, h, beq_self_eq_true]
    · rw [if_neg h, beq_false_of_ne (Ne.symm h)]

theorem kvGet_append_or (k : String) (a b : KVs) : kvGet k (a ++ b) = (kvGet k a).or (kvGet k b) := by
  simp only [kvGet_eq_lookup, List.lookup_append]

theorem kvGet_append (k : String) (a b : KVs) :
    kvGet k (a ++ b) = match kvGet k a with | some v => some v | none => kvGet k b := by
  rw [kvGet_append_or]; cases kvGet k a <;> rfl

theorem kvGet_mem {k : String} {v : Y} {m : KVs} (h : kvGet k m = some v) : (k, v) ∈ m := by
  obtain ⟨l₁, l₂, rfl, _⟩ := List.lookup_eq_some_iff.mp (kvGet_eq_lookup k m ▸ h)
  exact List.mem_append_right _ List.mem_cons_self

theorem kvGet_eq_none_iff {k : String} {m : KVs} : kvGet k m = none ↔ k ∉ kvKeys m := by
  rw [kvGet_eq_lookup, List.lookup_eq_none_iff, kvKeys, List.mem_map]
  exact ⟨fun h ⟨p, hp, e⟩ => bne_iff_ne.mp (h p hp) e.symm, fun h p hp => bne_iff_ne.mpr fun e => h ⟨p, hp, e.symm⟩⟩

theorem kvGet_isSome_iff {k : String} {m : KVs} : (kvGet k m).isSome ↔ k ∈ kvKeys m := by
  rw [← Decidable.not_iff_not, Bool.not_eq_true, Option.isSome_eq_false_iff, Option.isNone_iff_eq_none,
    kvGet_eq_none_iff]

theorem kvGet_none_congr {k : String} {m m' : KVs} (h : kvKeys m' = kvKeys m) : kvGet k m' = none ↔ kvGet k m = none := by
  rw [kvGet_eq_none_iff, kvGet_eq_none_iff, h]

theorem mem_iff_kvGet {k : String} {v : Y} {m : KVs} (hn : (kvKeys m).Nodup) : (k, v) ∈ m ↔ kvGet k m = some v := by
  refine ⟨fun h => ?_, kvGet_mem⟩
  induction m with
  | nil => cases h
  | cons kv r ih =>
    obtain ⟨hk, hn⟩ := List.nodup_cons.mp hn
    rcases List.mem_cons.mp h with rfl | h
    · simp [kvGet]
    · have : kv.1 ≠ k := fun e => hk (List.mem_map.mpr ⟨_, h, e.symm⟩)
      simp only [kvGet, this, if_false]; exact ih hn h

/-! ### `upsertWith`, and `kvSet` as its instance -/

theorem kvGet_upsertWith (k k2 : String) (f : Y → Y) (d : Y) (m : KVs) :
    kvGet k2 (upsertWith k f d m) =
      if k = k2 then some (match kvGet k m with | some v => f v | none => d) else kvGet k2 m := by
  induction m with
  | nil => simp only [upsertWith, kvGet]
  | cons kv r ih =>
    simp only [upsertWith, kvGet]
    split
    · subst_vars; simp only [kvGet]; split <;> rfl
    · rename_i h; simp only [kvGet, ih]; split
      · subst_vars; rw [if_neg (Ne.symm h)]
      · rfl

theorem kvKeys_upsertWith (k : String) (f : Y → Y) (d : Y) (m : KVs) :
    kvKeys (upsertWith k f d m) = if k ∈ kvKeys m then kvKeys m else kvKeys m ++ [k] := by
  induction m with
  | nil => rfl
  | cons kv r ih =>
    simp only [upsertWith, kvKeys_cons, List.mem_cons]
    split
    · subst_vars; simp [kvKeys_cons]
    · rename_i h
      simp only [kvKeys_cons, ih, Ne.symm h, false_or]
      split <;> rfl

theorem kvSet_eq_upsertWith (k : String) (v : Y) (m : KVs) : kvSet k v m = upsertWith k (fun _ => v) v m := by
  induction m with
  | nil => rfl
  | cons kv r ih => simp only [kvSet, upsertWith, ih]

theorem kvGet_kvSet (k k2 : String) (v : Y) (m : KVs) :
    kvGet k2 (kvSet k v m) = if k = k2 then some v else kvGet k2 m := by
  rw [kvSet_eq_upsertWith, kvGet_upsertWith]
  split
  · split <;> rfl
  · rfl

theorem kvKeys_kvSet (k : String) (v : Y) (m : KVs) :
    kvKeys (kvSet k v m) = if k ∈ kvKeys m then kvKeys m else kvKeys m ++ [k] := by
  rw [kvSet_eq_upsertWith, kvKeys_upsertWith]

theorem kvKeys_kvSet_of_get {k : String} {v v' : Y} {m : KVs} (h : kvGet k m = some v) :
    kvKeys (kvSet k v' m) = kvKeys m := by
  rw [kvKeys_kvSet, if_pos (kvGet_isSome_iff.mp (h ▸ rfl))]

theorem kvSet_of_get {k : String} {v : Y} : ∀ {m : KVs}, kvGet k m = some v → kvSet k v m = m
  | (k', v') :: r, h => by
    simp only [kvGet] at h
    simp only [kvSet]
    split
    · rw [if_pos ‹_›] at h; cases h; rfl
    · rw [if_neg ‹_›] at h; rw [kvSet_of_get h]

theorem kvSet_of_get_none {k : String} (v : Y) : ∀ {m : KVs}, kvGet k m = none → kvSet k v m = m ++ [(k, v)]
  | [], _ => rfl
  | (k', v') :: r, h => by
    simp only [kvGet] at h
    simp only [kvSet]
    split
    · rw [if_pos ‹_›] at h; cases h
    · rw [if_neg ‹_›] at h; rw [kvSet_of_get_none v h]; rfl

/-! ### `kvErase` is a filter -/

theorem kvErase_eq_filter (k : String) (m : KVs) : kvErase k m = m.filter (fun kv => decide (kv.1 ≠ k)) := by
  induction m with
  | nil => rfl
  | cons kv r ih =>
    rw [kvErase, List.filter_cons, ih]
    by_cases h : kv.1 = k
    · rw [if_pos h, if_neg (by simpa using h)]
    · rw [if_neg h, if_pos (by simpa using h)]

theorem kvErase_append (k : String) (a b : KVs) : kvErase k (a ++ b) = kvErase k a ++ kvErase k b := by
  simp only [kvErase_eq_filter, List.filter_append]

theorem kvGet_kvErase (k k2 : String) (m : KVs) :
    kvGet k2 (kvErase k m) = if k = k2 then none else kvGet k2 m := by
  induction m with
  | nil => simp only [kvErase, kvGet, ite_self]
  | cons kv r ih =>
    simp only [kvErase, kvGet]
    split
    · subst_vars; rw [ih]; split <;> rfl
    · rename_i h; simp only [kvGet, ih]; split
      · subst_vars; rw [if_neg (Ne.symm h)]
      · rfl

theorem kvErase_of_get_none {k : String} {m : KVs} (h : kvGet k m = none) : kvErase k m = m := by
  rw [kvErase_eq_filter, List.filter_eq_self]
  intro kv hkv
  have := kvGet_eq_none_iff.mp h
  simpa using fun e => this (List.mem_map.mpr ⟨_, hkv, e⟩)

theorem kvKeys_kvErase (k : String) (m : KVs) : kvKeys (kvErase k m) = (kvKeys m).filter (fun k' => decide (k' ≠ k)) := by
  rw [kvErase_eq_filter, kvKeys, kvKeys, List.filter_map]; rfl

theorem kvKeys_kvErase_sublist (k : String) (m : KVs) : List.Sublist (kvKeys (kvErase k m)) (kvKeys m) := by
  rw [kvErase_eq_filter]; exact List.filter_sublist.map _

/-! ### lookups at the head and under an `if`; `kvGetNN` -/

theorem kvGet_cons_self (k : String) (v : Y) (r : KVs) : kvGet k ((k, v) :: r) = some v := if_pos rfl

theorem kvGet_ite (k : String) (c : Prop) [Decidable c] (a b : KVs) :
    kvGet k (if c then a else b) = if c then kvGet k a else kvGet k b := by
  split <;> rfl

theorem kvGetNN_of_ne {k : String} {m : KVs} (h : kvGet k m ≠ some .null) : kvGetNN k m = kvGet k m := by
  unfold kvGetNN
  split
  · exact absurd ‹_› h
  · rfl

theorem kvGetNN_map {k : String} {m : KVs} {α : Type} {o : Option α} {f : α → Y} (h : kvGet k m = o.map f)
    (hf : ∀ a, f a ≠ .null) : kvGetNN k m = o.map f := by
  rw [kvGetNN_of_ne, h]
  rw [h]
  cases o with
  | none => exact nofun
  | some a => exact fun e => hf a (Option.some.inj e)

end BVM
