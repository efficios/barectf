/-
  Proofs/V2Stream.lean — the barectf 2 → 3 conversion of a data stream type (`convDst`, Model/V2.lean), on abstract data
  stream types as Proofs/V2.lean does it for field types: `AStream.r2` is the barectf 2 spelling, `AStream.r3` the
  barectf 3 one (features from the reserved members, default clock from the property mappings, the other packet context
  members as extra members), and `convDst_r2` says the converter takes the first to the second.
-/
import BVM.Proofs.V2
namespace BVM

/-! ### abstract data stream types of the barectf 2 dialect -/

structure AStruct where
  minAlign : Option Int
  fields : List (String × AFt)

def AStruct.ft (s : AStruct) : AFt := .struct s.minAlign s.fields

structure AEvent where
  logLevel : Option Y
  ctx : Option AStruct
  payload : Option AStruct

structure AStream where
  isDefault : Bool
  packetSize : AInt
  contentSize : AInt
  tsBegin : Option AInt
  tsEnd : Option AInt
  discarded : Option AInt
  seqNum : Option AInt
  extras : List (String × AFt)
  /-- event header type: present or not; its `id` and `timestamp` members -/
  eh : Option (Option AInt × Option AInt)
  ecc : Option AStruct
  events : List (String × AEvent)

/-- an integer field type as a node: barectf 2 spelling (`intY2`), barectf 3 spelling (`intY3`) -/
def intY2 (i : AInt) : Y := .map i.r2
def intY3 (i : AInt) : Y := .map i.r3

def AStream.pcFields (s : AStream) : KVs :=
  [("packet_size", intY2 s.packetSize), ("content_size", intY2 s.contentSize)] ++
  optE "timestamp_begin" (s.tsBegin.map intY2) ++ optE "timestamp_end" (s.tsEnd.map intY2) ++
  optE "events_discarded" (s.discarded.map intY2) ++ optE "packet_seq_num" (s.seqNum.map intY2) ++
  AFt.r2Fields s.extras

def AStream.ehFields (s : AStream) : Option KVs :=
  s.eh.map fun (i, t) => optE "id" (i.map intY2) ++ optE "timestamp" (t.map intY2)

def AEvent.r2 (e : AEvent) : Y :=
  .map (optE "log-level" e.logLevel ++ optE "context-type" (e.ctx.map (·.ft.r2)) ++ optE "payload-type" (e.payload.map (·.ft.r2)))

def AEvent.r3 (e : AEvent) : Y :=
  .map (optE "log-level" e.logLevel ++ optE "specific-context-field-type" (e.ctx.map (·.ft.r3)) ++
        optE "payload-field-type" (e.payload.map (·.ft.r3)))

def AStream.r2 (s : AStream) : KVs :=
  (if s.isDefault then [("$default", .bool true)] else []) ++
  [("packet-context-type", .map [("class", .str "struct"), ("fields", .map s.pcFields)])] ++
  optE "event-header-type" (s.ehFields.map fun f => .map [("class", .str "struct"), ("fields", .map f)]) ++
  optE "event-context-type" (s.ecc.map (·.ft.r2)) ++
  [("events", .map (s.events.map fun (ne : String × AEvent) => (ne.1, ne.2.r2)))]

/-- the clock the stream's timestamps are mapped to: event header timestamp first, then packet begin, then end -/
def AStream.clock (s : AStream) : Option String :=
  match s.eh.bind (·.2) |>.bind (·.clock) with
  | some c => some c
  | none => match s.tsBegin.bind (·.clock) with
    | some c => some c
    | none => s.tsEnd.bind (·.clock)

/-- value of a barectf 3 feature: the converted type of the reserved member, `false` (disabled) without one -/
def featY (i : Option AInt) : Y := match i with | some a => intY3 a | none => .bool false

def AStream.features (s : AStream) : Y :=
  .map [("packet", .map [("total-size-field-type", intY3 s.packetSize), ("content-size-field-type", intY3 s.contentSize),
                         ("beginning-timestamp-field-type", featY s.tsBegin), ("end-timestamp-field-type", featY s.tsEnd),
                         ("discarded-event-records-counter-snapshot-field-type", featY s.discarded),
                         ("sequence-number-field-type", featY s.seqNum)]),
        ("event-record", .map [("type-id-field-type", featY (s.eh.bind (·.1))),
                               ("timestamp-field-type", featY (s.eh.bind (·.2)))])]

def AStream.r3 (s : AStream) : KVs :=
  (if s.isDefault then [("$is-default", .bool true)] else []) ++
  optE "$default-clock-type-name" (s.clock.map .str) ++
  [("$features", s.features)] ++
  (if s.extras.isEmpty then [] else [("packet-context-field-type-extra-members", .seq (AFt.r3Members s.extras))]) ++
  optE "event-record-common-context-field-type" (s.ecc.map (·.ft.r3)) ++
  [("event-record-types", .map (s.events.map fun (ne : String × AEvent) => (ne.1, ne.2.r3)))]

theorem kvGet_r2Fields_none (k : String) : ∀ (fs : List (String × AFt)), (∀ nf ∈ fs, nf.1 ≠ k) →
    kvGet k (AFt.r2Fields fs) = none
  | [], _ => rfl
  | (n, f) :: r, h => by
    rw [AFt.r2Fields, kvGet, if_neg (h _ List.mem_cons_self)]
    exact kvGet_r2Fields_none k r fun nf hnf => h nf (List.mem_cons_of_mem _ hnf)

/-- no user member of the packet context bears a reserved name: it would be the same key twice in `pcFields`, which is
    a dictionary in barectf, and the converter would take it for the feature -/
def ExtrasOK (s : AStream) : Prop := ∀ nf ∈ s.extras, nf.1 ∉ ctfMemberNames

theorem extras_get_none {s : AStream} (h : ExtrasOK s) {k : String} (hk : k ∈ ctfMemberNames) :
    kvGet k (AFt.r2Fields s.extras) = none :=
  kvGet_r2Fields_none k _ fun nf hnf e => h nf hnf (e ▸ hk)

theorem pc_get (s : AStream) (h : ExtrasOK s) :
    kvGet "packet_size" s.pcFields = some (intY2 s.packetSize) ∧
    kvGet "content_size" s.pcFields = some (intY2 s.contentSize) ∧
    kvGet "timestamp_begin" s.pcFields = s.tsBegin.map intY2 ∧
    kvGet "timestamp_end" s.pcFields = s.tsEnd.map intY2 ∧
    kvGet "events_discarded" s.pcFields = s.discarded.map intY2 ∧
    kvGet "packet_seq_num" s.pcFields = s.seqNum.map intY2 := by
  have h3 := extras_get_none h (k := "timestamp_begin") (by simp [ctfMemberNames])
  have h4 := extras_get_none h (k := "timestamp_end") (by simp [ctfMemberNames])
  have h5 := extras_get_none h (k := "events_discarded") (by simp [ctfMemberNames])
  have h6 := extras_get_none h (k := "packet_seq_num") (by simp [ctfMemberNames])
  simp only [AStream.pcFields, kvGet_append_or, kvGet_optE, kvGet, String.reduceEq, ↓reduceIte, h3, h4, h5, h6,
    Option.none_or, Option.or_none, Option.some_or, and_self]

/-- `dstFeatures` looks the event header members up in `ehFields.getD []`: without an event header type both are absent -/
theorem eh_get (s : AStream) :
    kvGet "id" (s.ehFields.getD []) = (s.eh.bind (·.1)).map intY2 ∧
    kvGet "timestamp" (s.ehFields.getD []) = (s.eh.bind (·.2)).map intY2 := by
  unfold AStream.ehFields
  cases s.eh with
  | none => exact ⟨rfl, rfl⟩
  | some p =>
    simp only [Option.map_some, Option.getD_some, Option.bind_some, kvGet_append_or, kvGet_optE, String.reduceEq,
      ↓reduceIte, Option.or_none, Option.none_or, and_self]

theorem AInt.r2_get_pm (i : AInt) : kvGet "property-mappings" i.r2 = i.clock.map fun c =>
    .seq [.map [("type", .str "clock"), ("name", .str c), ("property", .str "value")]] := by
  simp only [AInt.r2, ite_singleton, List.cons_append, List.nil_append, kvGet, kvGet_append_or, kvGet_optE, String.reduceEq,
    ↓reduceIte, Option.none_or]

theorem clkNameOf_int (i : AInt) : clkNameOf (some (intY2 i)) = .ok (i.clock.map Y.str) := by
  simp only [clkNameOf, intY2, AInt.r2_class, kvGetNN, AInt.r2_get_pm]
  cases i.clock <;> rfl

theorem clkNameOf_opt (o : Option AInt) : clkNameOf (o.map intY2) = .ok ((o.bind (·.clock)).map Y.str) := by
  cases o with
  | none => rfl
  | some i => exact clkNameOf_int i

theorem convFtIfExists_opt (fuel : Nat) {m : KVs} {k : String} {o : Option AInt}
    (hk : kvGet k m = o.map intY2) : convFtIfExists (fuel + 1) (some m) k = .ok (o.map intY3) := by
  rw [convFtIfExists, hk]
  cases o with
  | none => rfl
  | some i => exact congrArg (· >>= _) (convFt_int i fuel)

theorem setFeature_featY (k : String) (o : Option AInt) (m : KVs) :
    setFeature k (o.map intY3) m = kvSet k (featY o) m := by
  cases o <;> rfl

theorem dstFeatures_r2 (s : AStream) (hx : ExtrasOK s) (fuel : Nat) (h : 1 ≤ fuel) :
    dstFeatures fuel s.pcFields s.ehFields = .ok s.features := by
  obtain ⟨f, rfl⟩ := Nat.exists_eq_add_one.mpr h
  obtain ⟨p1, p2, p3, p4, p5, p6⟩ := pc_get s hx
  obtain ⟨e1, e2⟩ := eh_get s
  simp only [dstFeatures, req_of_get p1, req_of_get p2, intY2, convFt_int, convFtIfExists_opt f p3, convFtIfExists_opt f p4,
    convFtIfExists_opt f p5, convFtIfExists_opt f p6, convFtIfExists_opt f e1, convFtIfExists_opt f e2, Except.ok_bind,
    setFeature_featY, kvSet, String.reduceEq, ↓reduceIte]
  rfl

/-- `timestamp_begin` and `timestamp_end`, when both are mapped to a clock, are mapped to the same one: otherwise
    `_conv_dst_node` raises a configuration error (`clocksOrError`) -/
def ClocksAgree (s : AStream) : Prop :=
  ∀ a b, s.tsBegin.bind (·.clock) = some a → s.tsEnd.bind (·.clock) = some b → a = b

theorem clocksOrError_agree (tb te : Option String) (h : ∀ a b, tb = some a → te = some b → a = b) :
    clocksOrError (tb.map Y.str) (te.map Y.str) = .ok () := by
  cases tb <;> cases te <;> simp [clocksOrError]
  rename_i a b
  exact h a b rfl rfl

theorem pickClock_map (c0 tb te : Option String) :
    pickClock (c0.map Y.str) (tb.map Y.str) (te.map Y.str) =
      (match c0 with | some c => some c | none => match tb with | some c => some c | none => te).map Y.str := by
  cases c0 <;> cases tb <;> cases te <;> rfl

theorem defaultClock_r2 (s : AStream) (hx : ExtrasOK s) (hc : ClocksAgree s) :
    defaultClock s.pcFields s.ehFields = .ok (s.clock.map Y.str) := by
  obtain ⟨_, _, p3, p4, _, _⟩ := pc_get s hx
  obtain ⟨_, e2⟩ := eh_get s
  simp only [defaultClock, p3, p4, clkNameOf_opt, Except.ok_bind, clocksOrError_agree _ _ hc]
  rw [AStream.clock, ← pickClock_map]
  cases hf : s.ehFields with
  | none =>
    rw [Option.map_eq_none_iff.mp hf]
    rfl
  | some f =>
    rw [hf, Option.getD_some] at e2
    simp only [e2, clkNameOf_opt, Except.ok_bind]

theorem filter_r2Fields (fs : List (String × AFt)) (h : ∀ nf ∈ fs, nf.1 ∉ ctfMemberNames) :
    (AFt.r2Fields fs).filter (fun kv => !ctfMemberNames.contains kv.1) = AFt.r2Fields fs := by
  induction fs with
  | nil => rfl
  | cons nf r ih =>
    have h1 : ctfMemberNames.contains nf.1 = false := by simpa using h nf List.mem_cons_self
    rw [AFt.r2Fields, List.filter_cons, h1, ih fun nf hnf => h nf (List.mem_cons_of_mem _ hnf)]
    rfl

theorem filter_pcFields (s : AStream) (h : ExtrasOK s) :
    s.pcFields.filter (fun kv => !ctfMemberNames.contains kv.1) = AFt.r2Fields s.extras := by
  have hf := fun k o => filter_optE (fun k => !ctfMemberNames.contains k) k o
  have hc : ∀ k ∈ ctfMemberNames, ctfMemberNames.contains k = true := fun k => List.contains_iff_mem.mpr
  simp only [AStream.pcFields, List.filter_append, hf, List.filter_cons, List.filter_nil, filter_r2Fields s.extras h,
    hc "packet_size" (by simp [ctfMemberNames]), hc "content_size" (by simp [ctfMemberNames]),
    hc "timestamp_begin" (by simp [ctfMemberNames]), hc "timestamp_end" (by simp [ctfMemberNames]),
    hc "events_discarded" (by simp [ctfMemberNames]), hc "packet_seq_num" (by simp [ctfMemberNames]),
    Bool.not_true, Bool.false_eq_true, ↓reduceIte, List.nil_append]

theorem extraMembers_r2 (s : AStream) (h : ExtrasOK s) (fuel : Nat) (hd : AFt.depthFields s.extras ≤ fuel) :
    extraMembers fuel s.pcFields = .ok (AFt.r3Members s.extras) := by
  rw [extraMembers, filter_pcFields s h]
  exact convFields_r2 s.extras fuel hd

def AStruct.depth (s : AStruct) : Nat := s.ft.depth

def optDepth (o : Option AStruct) : Nat := match o with | some s => s.depth | none => 0

def AEvent.depth (e : AEvent) : Nat := max (optDepth e.ctx) (optDepth e.payload)

theorem convFt_optStruct {o : Option AStruct} {fuel : Nat} (h : optDepth o ≤ fuel) (c : AStruct) (hc : o = some c) :
    convFt fuel c.ft.r2 = .ok c.ft.r3 :=
  convFt_r2 c.ft fuel (hc ▸ h : optDepth (some c) ≤ fuel)

theorem AStruct.r2_ne_null (c : AStruct) : c.ft.r2 ≠ .null := by
  rw [AStruct.ft, AFt.r2]
  exact Y.noConfusion

theorem convEvent_r2 (n : String) (e : AEvent) (fuel : Nat) (hd : e.depth ≤ fuel) :
    convEvent fuel (n, e.r2) = .ok (n, e.r3) := by
  have hc := convFt_optStruct (Nat.max_le.mp hd).1
  have hp := convFt_optStruct (Nat.max_le.mp hd).2
  rw [convEvent, AEvent.r2, asMap, Except.ok_bind, convErt, copyProp_nil, AEvent.r3,
    kvGetNN_map (k := "context-type") (o := e.ctx) (f := fun c => c.ft.r2) ?g1 AStruct.r2_ne_null,
    kvGetNN_map (k := "payload-type") (o := e.payload) (f := fun c => c.ft.r2) ?g2 AStruct.r2_ne_null]
  case g1 | g2 => simp only [kvGet_append_or, kvGet_optE, String.reduceEq, ↓reduceIte, Option.none_or, Option.or_none]
  cases hcx : e.ctx <;> cases hpl : e.payload <;>
    simp only [Option.map, hc, hp, hcx, hpl, Except.ok_bind, optE_none, optE_some, List.append_nil,
      kvGet_append_or, kvGet_optE, kvGet, String.reduceEq, ↓reduceIte, Option.or_none, kvSet_of_get_none]

theorem events_mapM (fuel : Nat) : ∀ (evs : List (String × AEvent)), (∀ ne ∈ evs, ne.2.depth ≤ fuel) →
    (evs.map fun (ne : String × AEvent) => (ne.1, ne.2.r2)).mapM (convEvent fuel) =
      .ok (evs.map fun (ne : String × AEvent) => (ne.1, ne.2.r3))
  | [], _ => rfl
  | (n, e) :: r, h => by
    rw [List.map_cons, List.mapM_cons, convEvent_r2 n e fuel (h _ List.mem_cons_self),
      events_mapM fuel r fun ne hne => h ne (List.mem_cons_of_mem _ hne)]
    rfl

def AStream.depth (s : AStream) : Nat :=
  max (max (AFt.depthFields s.extras) (optDepth s.ecc)) (s.events.foldl (fun a ne => max a ne.2.depth) 0)

theorem events_depth (fuel : Nat) : ∀ (l : List (String × AEvent)) (a : Nat),
    l.foldl (fun a ne => max a ne.2.depth) a ≤ fuel → a ≤ fuel ∧ ∀ ne ∈ l, ne.2.depth ≤ fuel
  | [], a, h => ⟨h, fun _ h => nomatch h⟩
  | x :: r, a, h => by
    obtain ⟨h1, h2⟩ := events_depth fuel r _ h
    obtain ⟨ha, hx⟩ := Nat.max_le.mp h1
    refine ⟨ha, fun ne hne => ?_⟩
    rcases List.mem_cons.mp hne with rfl | hne
    · exact hx
    · exact h2 ne hne

theorem stream_lookups (s : AStream) :
    kvGet "$default" s.r2 = (if s.isDefault then some (.bool true) else none) ∧
    kvGet "packet-context-type" s.r2 = some (.map [("class", .str "struct"), ("fields", .map s.pcFields)]) ∧
    kvGetNN "event-header-type" s.r2 = s.ehFields.map (fun f => .map [("class", .str "struct"), ("fields", .map f)]) ∧
    kvGetNN "event-context-type" s.r2 = s.ecc.map (·.ft.r2) ∧
    kvGet "events" s.r2 = some (.map (s.events.map fun (ne : String × AEvent) => (ne.1, ne.2.r2))) := by
  refine ⟨?_, ?_, kvGetNN_map ?_ (fun _ => Y.noConfusion), kvGetNN_map ?_ AStruct.r2_ne_null, ?_⟩ <;>
    simp only [AStream.r2, ite_singleton, kvGet_append_or, kvGet_optE, kvGet, String.reduceEq, ↓reduceIte,
      Option.none_or, Option.or_none]

/-- a data stream type written in the barectf 2 dialect converts to the same data stream type written in the
    barectf 3 dialect: features from the reserved members, default clock from the property mappings, the
    other packet context members as extra members in order, event record types converted -/
theorem convDst_r2 (s : AStream) (hx : ExtrasOK s) (hc : ClocksAgree s) (fuel : Nat)
    (h1 : 1 ≤ fuel) (hd : s.depth ≤ fuel) : convDst fuel s.r2 = .ok s.r3 := by
  obtain ⟨l1, l2, l3, l4, l5⟩ := stream_lookups s
  simp only [AStream.depth, Nat.max_le] at hd
  have f1 := defaultClock_r2 s hx hc
  have f2 := dstFeatures_r2 s hx fuel h1
  have f3 := extraMembers_r2 s hx fuel hd.1.1
  have f4 := events_mapM fuel s.events (events_depth fuel _ _ hd.2).2
  have hecc := convFt_optStruct hd.1.2
  have hemp : (AFt.r3Members s.extras).isEmpty = s.extras.isEmpty := by cases s.extras <;> rfl
  have hpc : fieldsOf "packet-context-type" (.map [("class", .str "struct"), ("fields", .map s.pcFields)]) = .ok s.pcFields :=
    rfl
  have heh : ∀ f : KVs, optFieldsOf "event-header-type" (.map [("class", .str "struct"), ("fields", .map f)]) = .ok (some f) :=
    fun f => rfl
  rw [convDst, req_of_get l2, Except.ok_bind, hpc, Except.ok_bind, l3]
  -- the `match`es on the event header type and on the common context type each end in a join point of the `do`
  -- block: `jp` is what follows the first, `jp4` what follows the second; the first is passed without computing `jp` twice
  extract_lets jp4 jp
  suffices hjp : jp s.ehFields = .ok s.r3 by
    cases hf : s.ehFields <;> rw [hf] at hjp <;> simp only [Option.map_none, Option.map_some, heh, Except.ok_bind] <;>
      exact hjp
  rw [AStream.r3, ← hemp]
  simp only [jp, jp4, f1, f2, f3, Except.ok_bind, l4, req_of_get l5, asMap, f4, copyProp_nil, l1]
  cases hcc : s.ecc <;> cases hck : s.clock <;>
    simp only [Option.map_none, Option.map_some, hecc, hcc, Except.ok_bind, kvSet_of_get_none, ↓iteSet_absent, kvGet_ite,
      ite_self, kvGet_append_or, kvGet_optE, kvGet, String.reduceEq, ↓reduceIte, Option.or_none, ite_singleton, optE_none,
      optE_some, List.append_nil, List.append_assoc]

end BVM
