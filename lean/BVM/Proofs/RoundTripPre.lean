/-
  Proofs/RoundTripPre.lean — where the hypotheses of the record-level round trip (Proofs/RoundTrip.lean) come from:
  `MemberOK` from the well-formedness the front end guarantees; `LenScopeOK` from the shape of a structure (the length
  member `__<name>_len` precedes its array, is an unsigned integer of at most 32 bits, no later member bears its name)
  and the length argument being in range; and all of them from one executable test, which the driver evaluates on
  the records the harness traces with the real tracer (so that the theorem is known to talk about those records).
-/
import BVM.Proofs.RoundTrip
namespace BVM

/-- a member whose leaf scalar is well formed and whose string arguments are C strings meets `MemberOK` in a
    structure whose alignment is a power of two -/
theorem memberOK_of (S : Struct) (hS : ∃ j, S.align = 2 ^ j) (pfx : String) (args : Args) (m : Member) (hm : m ∈ S.members)
    (hnu : m.ft ≠ .uuid) (hwf : m.ft.leaf.WF) (hl : ∀ l ∈ args.get (pfx ++ "_" ++ m.name), LeafOK l) :
    MemberOK S.align pfx args m :=
  ⟨hnu, hwf, by
    have hal := leaf_alOK m hwf
    have hle := member_align_le S m hm
    obtain ⟨n, ft⟩ := m
    cases ft with
    | el e => exact pow2_dvd_of_le hal hS hle
    | darr ln e => exact pow2_dvd_of_le hal hS hle
    | uuid => exact absurd rfl hnu, hl⟩

/-- the scope a reader has built after the members `pre` (newest first) -/
def scopeOf (pfx : String) (args : Args) (pre : List Member) : List (String × List Leaf) :=
  (pre.map fun m => (m.name, decMember pfx args m)).reverse

/-- `ln` names an unsigned integer member of `pre`, of at most 32 bits, not shadowed by a later member, and the
    argument passed for it is a length that fits it -/
def HasLen (pfx : String) (args : Args) (pre : List Member) (ln : String) : Prop :=
  ∃ before after sz al, pre = before ++ [⟨ln, .el (.sc (.int false sz al))⟩] ++ after ∧ (∀ m ∈ after, m.name ≠ ln) ∧
    sz ≤ 32 ∧ 0 ≤ ((args.get (pfx ++ "_" ++ ln)).headD (.num 0)).toInt ∧
    ((args.get (pfx ++ "_" ++ ln)).headD (.num 0)).toInt < (2 : Int) ^ sz

/-- the shape the front end gives a structure: every dynamic array of `ms` has its length member (`HasLen`) among the
    members before it, `pre` being those that precede `ms` -/
def LenSyn (pfx : String) (args : Args) : List Member → List Member → Prop
  | _, [] => True
  | pre, m :: rest => (∀ ln e, m.ft = .darr ln e → HasLen pfx args pre ln) ∧ LenSyn pfx args (pre ++ [m]) rest

theorem lookup_append_skip (ln : String) (v : List Leaf) (xs ys : List (String × List Leaf))
    (h : ∀ p ∈ xs, p.1 ≠ ln) : (xs ++ (ln, v) :: ys).lookup ln = some v := by
  rw [List.lookup_append, List.lookup_eq_none_iff.mpr fun p hp => bne_iff_ne.mpr (Ne.symm (h p hp)),
    Option.none_or, List.lookup_cons_self]

theorem lenValue_of_hasLen (pfx : String) (args : Args) (pre : List Member) (ln : String) (h : HasLen pfx args pre ln) :
    lenValue (scopeOf pfx args pre) (.ref ln) = some (cntOf pfx args ln) := by
  obtain ⟨before, after, sz, al, hpre, hafter, hsz, h0, hlt⟩ := h
  generalize hv : ((args.get (pfx ++ "_" ++ ln)).headD (.num 0)).toInt = v at h0 hlt
  have hdec : decMember pfx args ⟨ln, .el (.sc (.int false sz al))⟩ = [.num v] := by
    simp only [decMember, Elem.leafCount, Elem.leaf, takePad, List.map_cons, List.map_nil, decLeaf, hv]
    have hmod : v % (2 : Int) ^ sz = v := Int.emod_eq_of_lt h0 hlt
    simp only [hmod, signExtend, Bool.false_and, Bool.false_eq_true, if_false]
    rw [Int.toNat_of_nonneg h0]
  have hscope : scopeOf pfx args pre =
      (after.map fun m => (m.name, decMember pfx args m)).reverse ++ (ln, [.num v]) ::
        (before.map fun m => (m.name, decMember pfx args m)).reverse := by
    simp only [scopeOf, hpre, List.map_append, List.map_cons, List.reverse_append, List.reverse_cons, hdec,
      List.append_assoc, List.singleton_append]
  rw [hscope]
  simp only [lenValue]
  rw [lookup_append_skip ln [.num v] _ _ (by
    intro p hp
    simp only [List.mem_reverse, List.mem_map] at hp
    obtain ⟨m, hm, rfl⟩ := hp
    exact hafter m hm)]
  simp only [h0, if_true, cntOf, hv]
  congr 1
  have hnat : v.toNat < 2 ^ 32 := by
    have hp : (2 : Nat) ^ sz ≤ 2 ^ 32 := Nat.pow_le_pow_right (by decide) hsz
    have h1 : ((v.toNat : Nat) : Int) < ((2 ^ sz : Nat) : Int) := by rw [Int.toNat_of_nonneg h0]; simpa using hlt
    have h2 : v.toNat < 2 ^ sz := by exact_mod_cast h1
    omega
  simp only [u32]
  omega

theorem lenScopeOK_of_lenSyn (pfx : String) (args : Args) : ∀ (ms pre : List Member), LenSyn pfx args pre ms →
    LenScopeOK pfx args ms (scopeOf pfx args pre)
  | [], _, _ => trivial
  | m :: rest, pre, h => by
    refine ⟨fun ln e hft => lenValue_of_hasLen pfx args pre ln (h.1 ln e hft), ?_⟩
    have := lenScopeOK_of_lenSyn pfx args rest (pre ++ [m]) h.2
    simpa [scopeOf] using this

theorem scalarWFb_sound (sc : Scalar) (h : scalarWFb sc = true) : sc.WF := by
  cases sc with
  | int sg sz a =>
    simp only [scalarWFb, Bool.and_eq_true, decide_eq_true_eq] at h
    exact ⟨h.1.1, h.1.2, pow2b_sound a h.2⟩
  | real sz a =>
    simp only [scalarWFb, Bool.and_eq_true, Bool.or_eq_true, beq_iff_eq] at h
    exact ⟨h.1, pow2b_sound a h.2⟩
  | str => trivial

theorem lenScopeOKb_sound (pfx : String) (args : Args) : ∀ (ms : List Member) (scope : List (String × List Leaf)),
    lenScopeOKb pfx args ms scope = true → LenScopeOK pfx args ms scope
  | [], _, _ => trivial
  | m :: ms, scope, h => by
    simp only [lenScopeOKb, Bool.and_eq_true] at h
    refine ⟨?_, lenScopeOKb_sound pfx args ms _ h.2⟩
    intro ln e hft
    have h1 := h.1
    rw [hft] at h1
    simpa using h1

theorem struct_roundtrip_exec (env : SerEnv) (pfx : String) (args : Args) (S : Struct) (s : SerSt)
    (hpre : rootPreb env s.buf.length pfx args S s.at_ = true)
    (h : (serRoot env pfx (buildRoot specNone S) args s).oob = false) :
    readStruct env.bo (serRoot env pfx (buildRoot specNone S) args s).buf (8 * s.buf.length) (tsdlStruct S) s.at_ =
      some (S.members.map (fun m => (m.name, decMember pfx args m)), (serRoot env pfx (buildRoot specNone S) args s).at_) ∧
    PrefixEq env.bo s.at_ s.buf (serRoot env pfx (buildRoot specNone S) args s).buf ∧
    s.at_ ≤ (serRoot env pfx (buildRoot specNone S) args s).at_ := by
  simp only [rootPreb, Bool.and_eq_true, decide_eq_true_eq, Bool.or_eq_true, Bool.not_eq_true', beq_iff_eq,
    List.all_eq_true] at hpre
  obtain ⟨⟨⟨⟨⟨hp2, hmem⟩, hlen⟩, hsmall⟩, hfast⟩, hat⟩ := hpre
  have hS := pow2b_sound _ hp2
  have hApos : 0 < S.align := by obtain ⟨k, hk⟩ := hS; rw [hk]; exact Nat.two_pow_pos k
  refine struct_roundtrip env pfx args S s s.buf.length
    ⟨fun hf => by rcases hfast with h1 | h1
                  · rw [hf] at h1; exact absurd h1 (by simp)
                  · exact h1, hApos, hsmall⟩
    hS ?_ (lenScopeOKb_sound _ _ _ _ hlen) rfl hat h
  intro m hm
  have hmp := hmem m hm
  simp only [memberPreb, Bool.and_eq_true, List.all_eq_true, bne_iff_ne, ne_eq] at hmp
  obtain ⟨⟨hnu, hwf⟩, hl⟩ := hmp
  refine memberOK_of S hS pfx args m hm ?_ (scalarWFb_sound _ hwf) (fun l hl' x hx => hl l hl' x hx)
  intro e
  rw [e] at hnu
  simp at hnu

end BVM
