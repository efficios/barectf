/-
  Props/C12.lean — property C12: inclusion, aliases and inheritance follow the documented patching
  rules (docs/modules/yaml/partials/patching-rules-table.adoc, include.adoc, ft-obj.adoc).

  Model: Model/Patch.lean (`_update_node`), Model/Expand.lean (`_process_node_include`,
  `_resolve_ft_alias`, `_apply_ft_inheritance`).  Tie: checks/c12.py calls those four real functions
  on generated trees, worlds and alias universes and compares with these definitions (H-frontend),
  and compares whole effective documents.

  What is proved, for all trees / worlds / fuel:
   * the patching table: scalars and null replace, mappings merge recursively, sequences append,
     `members` (barectf 3) merge as the ordered map they denote, kind clashes replace, value and key
     order of every property of a patched mapping;
   * bases are applied in the order listed and the including object last (`include_order`);
   * search order of inclusion directories; a file met again on the inclusion stack is an error;
   * aliases: chains of any length resolve; unknown alias and alias cycle are errors; inheritance is
     patching the (effective) base with the inheriting node.
  Not proved: that enough fuel always exists (termination of the real recursion is by the include
  stack / alias set; the model bounds it by fuel and the harness reports exhausted fuel as
  inconclusive), and end-to-end statements over whole documents (those are C11's).
-/
import BVM.Proofs.Expand
import BVM.Proofs.Patch
import BVM.Proofs.Comb
namespace BVM

/-! ### the patching table -/

/-- scalars (and `null`, which resets to the default) replace -/
theorem patch_scalar_replaces (v3 : Bool) (k : String) (bv ov : Y) (h1 : ov.isMap = false) (h2 : ov.isSeq = false) :
    merge v3 k bv ov = ov := by
  cases ov with
  | map _ => cases h1
  | seq _ => cases h2
  | _ => rfl

theorem patch_null_replaces (v3 : Bool) (k : String) (bv : Y) : merge v3 k bv .null = .null :=
  rfl

/-- mappings merge recursively -/
theorem patch_maps_merge (v3 : Bool) (k : String) (b o : KVs) :
    merge v3 k (.map b) (.map o) = .map (patchMap v3 b o) := merge_map_map v3 k b o

/-- sequences append (anything but barectf 3 `members`) -/
theorem patch_sequences_append (v3 : Bool) (k : String) (b o : List Y) (h : ¬ (k = "members" ∧ v3 = true)) :
    merge v3 k (.seq b) (.seq o) = .seq (b ++ o) := by
  rw [merge_seq_seq]; simp [h]

/-- barectf 3 structure members merge as an ordered map by member name: patching two member lists is
    patching the ordered maps they denote (matched names patched in place in base order, new names
    appended in overlay order — `patched_value`, `patched_key_order`) -/
theorem patch_members_ordered_map (ms os : KVs) :
    merge true "members" (.seq (ms.map memberItem)) (.seq (os.map memberItem)) =
      .seq ((patchMap true ms os).map memberItem) := by
  rw [merge_seq_seq]; simp [patchMembers_omap]

/-- barectf 2 has no such exception (its `fields` are a mapping already) -/
theorem patch_members_v2_append (b o : List Y) : merge false "members" (.seq b) (.seq o) = .seq (b ++ o) := by
  rw [merge_seq_seq]; simp

/-- kind clash between base and overlay value: the overlay value replaces -/
theorem patch_kind_clash_map (v3 : Bool) (k : String) (bv : Y) (o : KVs) (h : bv.isMap = false) :
    merge v3 k bv (.map o) = .map o := by
  cases bv <;> first | rfl | cases h

theorem patch_kind_clash_seq (v3 : Bool) (k : String) (bv : Y) (o : List Y) (h : bv.isSeq = false) :
    merge v3 k bv (.seq o) = .seq o := by
  cases bv <;> first | rfl | cases h

/-- every property of a patched mapping -/
theorem patched_value (v3 : Bool) (k : String) (b o : KVs) (h : (kvKeys o).Nodup) :
    kvGet k (patchMap v3 b o) =
      match kvGet k b, kvGet k o with
      | some bv, some ov => some (merge v3 k bv ov)
      | none, some ov => some ov
      | r, none => r := kvGet_patchMap v3 k o b h

theorem patched_key_order (v3 : Bool) (b o : KVs) (h : (kvKeys o).Nodup) :
    kvKeys (patchMap v3 b o) = kvKeys b ++ (kvKeys o).filter (fun k => decide (k ∉ kvKeys b)) :=
  kvKeys_patchMap v3 o b h

/-! ### inclusion -/

theorem foldBases_cons (v3 : Bool) (e : Y) (es : List Y) :
    foldBases v3 none (e :: es) = some (es.foldl (patchNode v3) e) :=
  List.foldl_hom some fun _ _ => rfl

/-- bases are applied in the order listed and the including object last: the result is
    `patch (… (patch e₁ e₂) … eₙ) last`, `eᵢ` the effective node of the i-th file -/
theorem include_order (W : World) (fuel : Nat) (stack : Stack) (kd : Kind) (m0 : KVs) :
    procInclude W (fuel + 1) stack kd (.map m0) =
      (do
        let m1 ← kd.children.foldlM (childStep (fun k' c => procInclude W fuel stack k' c)) m0
        match kvGet "$include" m1 with
        | none => .ok (.map m1)
        | some inc => do
          let paths ← includePaths inc
          let es ← loadBases (fun st c => procInclude W fuel st kd c) W stack paths
          .ok (match es with
            | [] => .map (kvErase "$include" m1)
            | e :: r => patchNode kd.isV3 (r.foldl (patchNode kd.isV3) e) (.map (kvErase "$include" m1)))) := by
  -- the two sides begin alike; the loop over the paths is `loadBases` followed by `foldBases` (`foldlM_inclStep`)
  rw [procInclude]
  refine congrArg (_ >>= ·) (funext fun m1 => ?_)
  cases kvGet "$include" m1 with
  | none => rfl
  | some inc =>
    refine congrArg (_ >>= ·) (funext fun paths => ?_)
    rw [foldlM_inclStep, Except.map_bind]
    refine congrArg (_ >>= ·) (funext fun es => ?_)
    cases es with
    | nil => rfl
    | cons e r => rw [foldBases_cons]; rfl

/-- inclusion files are searched in the given directories in order -/
theorem search_order (p : String) (pre : List (List (String × Y))) (d : List (String × Y))
    (post : List (List (String × Y))) (y : Y)
    (hpre : ∀ d' ∈ pre, kvGet p d' = none) (hd : kvGet p d = some y) :
    findInDirs p (pre ++ d :: post) 0 = some (pre.length, y) := by
  induction pre with
  | nil => rw [List.nil_append, findInDirs, hd]; rfl
  | cons d0 r ih =>
    rw [List.cons_append, findInDirs, hpre d0 List.mem_cons_self, findInDirs_shift,
      ih fun d' h => hpre d' (List.mem_cons_of_mem _ h)]
    rfl

/-- a file that is already on the inclusion stack: configuration error, whatever precedes it -/
theorem recursive_inclusion_is_error (rec : Stack → Y → FR Y) (W : World) (stack : Stack) (p : String)
    (rest : List String) (di : Nat) (content : Y)
    (hfound : findInDirs p W.dirs 0 = some (di, content)) (hstack : (di, p) ∈ stack) :
    loadBases rec W stack (p :: rest) = .error (.includeCycle p) := by
  simp [loadBases, hfound, hstack]

/-- a missing file is an error unless the parser was told to ignore it, in which case it is skipped -/
theorem missing_file (rec : Stack → Y → FR Y) (W : World) (stack : Stack) (p : String) (rest : List String)
    (hmiss : findInDirs p W.dirs 0 = none) :
    loadBases rec W stack (p :: rest) =
      if W.ignoreNotFound then loadBases rec W stack rest else .error (.includeNotFound p) := by
  simp [loadBases, hmiss]

/-! ### aliases -/

/-- `names = [a₀, …, aₙ]`, `aᵢ` is an alias of `aᵢ₊₁` and `aₙ` names `node` -/
def ChainIn : List String → Y → KVs → Prop
  | [], _, _ => False
  | [a], node, al => kvGet a al = some node
  | a :: b :: r, node, al => kvGet a al = some (.str b) ∧ ChainIn (b :: r) node al

/-- aliases may reference aliases to any depth -/
theorem alias_depth (v3 : Bool) (node : Y)
    (hleaf : ∀ fuel st, resolveVal v3 (fuel + 1) st node = .ok (node, st)) :
    ∀ (names : List String) (fuel : Nat) (st : ASt), names.Nodup →
      (∀ n ∈ names, n ∉ st.resolved ∧ n ∉ st.aset) → ChainIn names node st.aliases →
      names.length + 1 ≤ fuel →
      ∃ st', resolveVal v3 fuel st (.str (names.headD "")) = .ok (node, st') := by
  intro names
  induction names with
  | nil => intro _ _ _ _ h; exact absurd h (by simp [ChainIn])
  | cons a rest ih =>
    intro fuel st hnd hfresh hchain hfuel
    obtain ⟨f, rfl⟩ : ∃ f, fuel = f + 1 := ⟨fuel - 1, by simp at hfuel; omega⟩
    have ha := hfresh a (by simp)
    cases rest with
    | nil =>
      simp only [ChainIn] at hchain
      obtain ⟨f', rfl⟩ : ∃ f', f = f' + 1 := ⟨f - 1, by simp at hfuel; omega⟩
      exact ⟨_, resolveVal_alias_step v3 (f' + 1) st a node node _ hchain ha.1 ha.2 (hleaf _ _)⟩
    | cons b r =>
      simp only [ChainIn] at hchain
      have hnd' : (b :: r).Nodup := (List.nodup_cons.mp hnd).2
      have hane : ∀ n ∈ b :: r, n ≠ a := fun n hn e => (List.nodup_cons.mp hnd).1 (e ▸ hn)
      have hfresh' : ∀ n ∈ b :: r, n ∉ ({ st with aset := a :: st.aset } : ASt).resolved ∧
          n ∉ ({ st with aset := a :: st.aset } : ASt).aset := by
        intro n hn
        have := hfresh n (List.mem_cons_of_mem _ hn)
        exact ⟨this.1, by simp [hane n hn, this.2]⟩
      obtain ⟨st2, h2⟩ := ih f { st with aset := a :: st.aset } hnd' hfresh' hchain.2
        (by simp at hfuel ⊢; omega)
      exact ⟨_, resolveVal_alias_step v3 f st a (.str b) node st2 hchain.1 ha.1 ha.2 h2⟩

/-- a field type object without nested field type properties resolves to itself -/
theorem resolveVal_leaf (v3 : Bool) (m : KVs) (h1 : ∀ k ∈ ftPropNames, kvGet k m = none)
    (h2 : kvGet (membersKey v3) m = none) (fuel : Nat) (st : ASt) :
    resolveVal v3 (fuel + 1) st (.map m) = .ok (.map m, st) := by
  have hks : ∀ (ks : List String) (f : ASt → Y → FR (Y × ASt)) (s : ASt), (∀ k ∈ ks, kvGet k m = none) →
      modKeysS ks f s m = .ok (m, s) := by
    intro ks f s
    induction ks with
    | nil => intro _; rfl
    | cons k r ih =>
      intro h
      rw [modKeysS, modKeyS_eq, h k List.mem_cons_self, Except.ok_bind]
      exact ih fun k' hk' => h k' (List.mem_cons_of_mem _ hk')
  rw [resolveVal, hks ftPropNames _ st h1, Except.ok_bind]
  dsimp only
  rw [modKeyS_eq, h2]
  rfl

/-- an alias cycle is a configuration error: an alias met again while it is being resolved -/
theorem alias_cycle_is_error (v3 : Bool) (fuel : Nat) (st : ASt) (a : String) (av : Y)
    (hget : kvGet a st.aliases = some av) (hres : a ∉ st.resolved) (hset : a ∈ st.aset) :
    resolveVal v3 (fuel + 1) st (.str a) = .error (.aliasCycle a) :=
  by simp [resolveVal, hget, hres, hset]

/-- in particular an alias of itself, from a fresh state -/
theorem self_alias_is_error (v3 : Bool) (fuel : Nat) (al : KVs) (a : String)
    (hget : kvGet a al = some (.str a)) :
    resolveVal v3 (fuel + 2) ⟨al, [], []⟩ (.str a) = .error (.aliasCycle a) := by
  -- one step on: `a` is neither resolved nor being resolved, so its value, `a` again, is resolved with `a` in the alias set
  have h := alias_cycle_is_error v3 fuel ⟨al, [], [a]⟩ a (.str a) hget (by simp) (by simp)
  rw [resolveVal]
  simp only [hget, List.contains_nil, Bool.false_eq_true, ↓reduceIte, h]
  rfl

theorem unknown_alias_is_error (v3 : Bool) (fuel : Nat) (st : ASt) (a : String)
    (hget : kvGet a st.aliases = none) :
    resolveVal v3 (fuel + 1) st (.str a) = .error (.unknownAlias a) := by
  simp [resolveVal, hget]

/-! ### non-vacuity and closed instances -/

def c12W : World :=
  { dirs := [[("b.yaml", .map [("a", .int 1), ("l", .seq [.int 1])])],
             [("b.yaml", .map [("a", .int 9)]),
              ("c.yaml", .map [("a", .int 2), ("l", .seq [.int 2]), ("n", .null)]),
              ("self.yaml", .map [("$include", .str "self.yaml")])]] }

/-- two bases and an overlay: order, appending, first directory wins -/
example : procInclude c12W 10 [] .ert
      (.map [("$include", .seq [.str "b.yaml", .str "c.yaml"]), ("l", .seq [.int 3]), ("z", .bool true)])
    = .ok (.map [("a", .int 2), ("l", .seq [.int 1, .int 2, .int 3]), ("n", .null), ("z", .bool true)]) :=
  (FR.isOkWith_iff _ _).mp (by decide +kernel)

example : procInclude c12W 10 [] .ert (.map [("$include", .str "self.yaml")]) = .error (.includeCycle "self.yaml") :=
  (FR.isErr_iff _ _).mp (by decide +kernel)

/-- members: `b` patched in place, `c` appended -/
example : merge true "members"
      (.seq [.map [("a", .str "u8")], .map [("b", .map [("field-type", .str "u8")])]])
      (.seq [.map [("b", .map [("field-type", .str "u16")])], .map [("c", .str "u8")]])
    = .seq [.map [("a", .str "u8")], .map [("b", .map [("field-type", .str "u16")])], .map [("c", .str "u8")]] := by
  decide +kernel

/-- a chain of three aliases satisfies the hypotheses of `alias_depth` -/
example : ChainIn ["a", "b", "c"] (.map [("class", .str "uint")])
    [("a", .str "b"), ("c", .map [("class", .str "uint")]), ("b", .str "c")] := by
  simp [ChainIn]

example : (resolveVal true 10 ⟨[("a", .str "b"), ("c", .map [("class", .str "uint")]), ("b", .str "c")], [], []⟩
    (.str "a")).map (·.1) = .ok (.map [("class", .str "uint")]) := by
  have : FR.isOkWith ((resolveVal true 10 ⟨[("a", .str "b"), ("c", .map [("class", .str "uint")]), ("b", .str "c")], [], []⟩
    (.str "a")).map (·.1)) (.map [("class", .str "uint")]) = true := by decide +kernel
  exact (FR.isOkWith_iff _ _).mp this

/-- inheritance is patching the base with the inheriting node (null reset included) -/
example : inheritVal true 10 (.map [("$inherit", .map [("class", .str "uint"), ("size", .int 8), ("alignment", .int 16)]),
      ("alignment", .null), ("size", .int 32)])
    = .ok (.map [("class", .str "uint"), ("size", .int 32), ("alignment", .null)]) :=
  (FR.isOkWith_iff _ _).mp (by decide +kernel)

end BVM

#print axioms BVM.patch_scalar_replaces
#print axioms BVM.patch_null_replaces
#print axioms BVM.patch_maps_merge
#print axioms BVM.patch_sequences_append
#print axioms BVM.patch_members_ordered_map
#print axioms BVM.patch_members_v2_append
#print axioms BVM.patch_kind_clash_map
#print axioms BVM.patch_kind_clash_seq
#print axioms BVM.patched_value
#print axioms BVM.patched_key_order
#print axioms BVM.foldBases_cons
#print axioms BVM.include_order
#print axioms BVM.search_order
#print axioms BVM.recursive_inclusion_is_error
#print axioms BVM.missing_file
#print axioms BVM.alias_depth
#print axioms BVM.resolveVal_leaf
#print axioms BVM.alias_cycle_is_error
#print axioms BVM.self_alias_is_error
#print axioms BVM.unknown_alias_is_error
