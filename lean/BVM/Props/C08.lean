/-
  Props/C08.lean — property C08: integer fields of any size, bit offset and byte
  order are encoded bit-exactly.

  Statements only; proofs are in Proofs/Bits.lean.  `bfWriteLE`/`bfWriteBE` are the
  transcriptions of `bt_bitfield_write_le/_be` (Model/Bits.lean); `bitLE`/`bitBE`
  are the CTF bit orders; `itb v j` is two's-complement bit `j` of the integer `v`.
  No bound on the value, on the prior buffer contents, on the start offset or on
  the buffer size.
-/
import BVM.Proofs.Bits
import BVM.Proofs.Shifts
namespace BVM

/-- two's-complement bit `j < len` of `v` is bit `j` of `v mod 2^len`: "exactly the low bits of the value" -/
theorem itb_low_bits (v : Int) (len j : Nat) (hj : j < len) :
    itb v j = ((v % (2 : Int) ^ len).toNat).testBit j := by
  rw [toNat_emod_testBit, decide_eq_true hj, Bool.true_and]

/-- C08, little endian: field bit `j` (stream order) holds value bit `j`; every other bit of the
    buffer is unchanged; the buffer keeps its length. -/
theorem bfWriteLE_bits (vt : CInt) (buf : Buf) (base start len : Nat) (v : Int)
    (hb : base + (start + len + 7) / 8 ≤ buf.length) :
    (bfWriteLE vt buf base start len v).length = buf.length ∧
    (∀ j, j < len → bitLE (bfWriteLE vt buf base start len v) (8 * base + start + j) = itb v j) ∧
    (∀ i, ¬ (8 * base + start ≤ i ∧ i < 8 * base + start + len) →
      bitLE (bfWriteLE vt buf base start len v) i = bitLE buf i) :=
  ⟨(bfWriteLE_put ..).length,
   fun j hj => (bfWriteLE_bit vt buf base start len v hb _).trans (by
    rw [if_pos ⟨Nat.le_add_right .., Nat.add_lt_add_left hj _⟩, Nat.add_sub_cancel_left]),
   fun i hi => (bfWriteLE_bit vt buf base start len v hb i).trans (if_neg hi)⟩

/-- C08, big endian: field bit `j` (stream order) holds value bit `len - 1 - j` (most significant first). -/
theorem bfWriteBE_bits (vt : CInt) (buf : Buf) (base start len : Nat) (v : Int)
    (hb : base + (start + len + 7) / 8 ≤ buf.length) :
    (bfWriteBE vt buf base start len v).length = buf.length ∧
    (∀ j, j < len → bitBE (bfWriteBE vt buf base start len v) (8 * base + start + j) = itb v (len - 1 - j)) ∧
    (∀ i, ¬ (8 * base + start ≤ i ∧ i < 8 * base + start + len) →
      bitBE (bfWriteBE vt buf base start len v) i = bitBE buf i) :=
  ⟨(bfWriteBE_put ..).length,
   fun j hj => (bfWriteBE_bit vt buf base start len v hb _).trans (by
    rw [if_pos ⟨Nat.le_add_right .., Nat.add_lt_add_left hj _⟩]; congr 1; omega),
   fun i hi => (bfWriteBE_bit vt buf base start len v hb i).trans (if_neg hi)⟩

/-- "touching no byte that does not overlap the field": bytes outside
    `[base + start/8, base + ceil((start+len)/8))` are not stored to (byte-level equality, both orders). -/
theorem bf_touch (bo : ByteOrder) (vt : CInt) (buf : Buf) (base start len : Nat) (v : Int) (k : Nat)
    (hk : k < base + start / 8 ∨ base + (start + len + 7) / 8 ≤ k) :
    getB (bfWrite bo vt buf base start len v) k = getB buf k :=
  bfWrite_frame bo vt buf base start len v k hk

/-- the memcpy fast path (alignment multiple of 8, size 8/16/32/64, little-endian host, trace order =
    native order) writes the same bits as the little-endian macro would. -/
theorem memcpy_eq_bitfield (vt : CInt) (buf : Buf) (base n x : Nat) (hb : base + n ≤ buf.length) (i : Nat) :
    bitLE (memcpyLE n buf base x) i = bitLE (bfWriteLE vt buf base 0 (8 * n) (Int.ofNat x)) i := by
  rw [(memcpyLE_put n buf base x).bits' bitLE_local (by omega), bfWriteLE_bit _ _ _ _ _ _ (by omega), Nat.mul_add]
  rfl

/-- no shift executed by either macro has an amount ≥ the width of its (promoted) operand:
    the only shift-related undefined behaviour of ISO C90 cannot occur, for any carrier of ≥ 2 bits. -/
theorem no_ub_shift (isLE : Bool) (W start len : Nat) (hW : 2 ≤ W) :
    ∀ p ∈ bfShifts isLE W start len, p.2 < p.1 :=
  bfShifts_ok isLE W start len hW

/-- `_bt_piecewise_rshift` is a plain (arithmetic) right shift -/
theorem piecewise_rshift_is_shift (W : Nat) (v : Int) (k : Nat) : pwRshift W v k = v >>> k :=
  pwRshift_eq W v k

/-! Non-vacuity: the hypotheses are met by concrete non-trivial calls, and the statements are
    evaluated there (these are tests of the statements, not proofs of the unbounded claim). -/
example : (0 : Nat) + (5 + 13 + 7) / 8 ≤ [0xff, 0xff, 0xff, 0xff].length := by decide
example : bfWriteLE ⟨16, true⟩ [0xff, 0xff, 0xff, 0xff] 0 5 13 (-2) = [0xdf, 0xff, 0xff, 0xff] := by decide
example : bfWriteBE ⟨16, true⟩ [0, 0, 0, 0] 1 3 13 (-2) = [0, 0x1f, 0xfe, 0] := by decide
example : (bfShifts true 64 3 61).length = 10 ∧ (bfShifts true 64 3 61).all (fun p => p.2 < p.1) := by decide

#print axioms itb_low_bits
#print axioms bfWriteLE_bits
#print axioms bfWriteBE_bits
#print axioms bf_touch
#print axioms memcpy_eq_bitfield
#print axioms no_ub_shift
#print axioms piecewise_rshift_is_shift
end BVM
