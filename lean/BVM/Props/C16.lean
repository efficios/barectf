/-
  Props/C16.lean — property C16: the in-tracing-section flag brackets every modification of the packet.

  `runOps cfg d ops (rtInit bytes p)` is the execution of an arbitrary history `ops` of public API
  calls on a context of data stream type `d` of an arbitrary configuration `cfg`, on a buffer of
  `bytes` bytes, against an arbitrary platform script `p` (answers, clock, toggles, buffer swaps).
  Every store into the packet buffer is logged as `Ev.store off n flag isOpen` with the value the
  flag had at that instant; every callback entry as `Ev.cb kind seq flag isOpen`; every return of a
  public API call as `Ev.ret api ctx bufLen`.

  Reading recorded in the evidence: the clock callback invoked at the very entry of a tracing
  function (and in the preamble of a platform-initiated open/close) runs before the section is
  entered; `callbacks_under_flag` therefore starts at the test of the enable flag (`traceBody`).
-/
import BVM.Proofs.RtFlag
namespace BVM

/-- every store into the packet buffer happens while the flag reads 1 — all configurations, all
    histories, all platform scripts, all buffer sizes -/
theorem stores_under_flag (cfg : Cfg) (d : DST) (ops : List Op) (bytes : Nat) (p : Plat) :
    ∀ off n f o, Ev.store off n f o ∈ (runOps cfg d ops (rtInit bytes p)).log → f = true :=
  fun _ _ _ _ h => runOps_log_top cfg d ops bytes p _ h

/-- the flag reads 0 whenever a public API call made from outside a tracing call returns
    (all paths, including the discard paths) -/
theorem flag_restored (cfg : Cfg) (d : DST) (ops : List Op) (bytes : Nat) (p : Plat) :
    ∀ api c bl, Ev.ret api c bl ∈ (runOps cfg d ops (rtInit bytes p)).log → c.inTracingSection = false :=
  fun _ _ _ h => runOps_log_top cfg d ops bytes p _ h

/-- inside every platform callback invoked on behalf of a tracing call (is-back-end-full, open,
    close, and the clock reads nested in those) the flag reads 1; so does it at every store of
    that call — from whatever state the call was entered -/
theorem callbacks_under_flag (cfg : Cfg) (d : DST) (e : ERT) (args : Args) (s : St) :
    ∃ new, (traceBody cfg d e args s).log = new ++ s.log ∧
      (∀ k seq f o, Ev.cb k seq f o ∈ new → f = true) ∧
      (∀ off n f o, Ev.store off n f o ∈ new → f = true) := by
  obtain ⟨new, h1, h2⟩ := (traceBody_flag cfg d e args s).1
  exact ⟨new, h1, fun k seq f o hm => h2 _ hm, fun off n f o hm => h2 _ hm⟩

/-- a tracing call entered with the flag down returns with the flag down -/
theorem trace_flag_down (cfg : Cfg) (d : DST) (e : ERT) (args : Args) (s : St)
    (h : s.c.inTracingSection = false) (hh : (trace cfg d e args s).halted = false) :
    (trace cfg d e args s).c.inTracingSection = false :=
  (trace_flag cfg d e args s s (Under.refl h)).flag (.inl hh)

/-! Non-vacuity: a concrete configuration and history whose log does contain stores, tracer-invoked
    callbacks and API returns (so the theorems above are about something). -/
def exDst : DST :=
  { name := "s", id := 0, clock := none,
    feat := { totalSize := .int false 16 8, contentSize := .int false 16 8, tsBegin := none, tsEnd := none,
              discarded := none, seqNum := none, ertId := none, erTs := none },
    pcExtra := [], ercc := none,
    erts := [{ name := "e", id := 0, sc := none, p := some ⟨1, [⟨"x", .el (.sc (.int false 8 8))⟩]⟩ }] }
def exCfg : Cfg :=
  { bo := .le, fast := true, uuid := [],
    feat := { magic := some (.int false 32 8), uuid := false, dstId := none }, dsts := [exDst] }
def exRun : St := runOps exCfg exDst [.open_, .trace "e" [("p_x", [.num 7])], .trace "e" [("p_x", [.num 9])]] (rtInit 9 {})

example : exRun.halted = false ∧
    (exRun.log.any fun e => match e with | .store _ _ true _ => true | _ => false) = true ∧
    (exRun.log.any fun e => match e with | .cb .close _ true _ => true | _ => false) = true ∧
    (exRun.log.any fun e => match e with | .ret "trace" _ _ => true | _ => false) = true := by decide +kernel

#print axioms stores_under_flag
#print axioms flag_restored
#print axioms callbacks_under_flag
#print axioms trace_flag_down
end BVM
