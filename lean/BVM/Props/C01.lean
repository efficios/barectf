/-
  Props/C01.lean — property C01: metadata-driven decoding returns exactly the traced values.

  Layers: (1) writer = the bit-field macros / memcpy fast path (Model/Bits, proved bit-exact in C08);
  (2) reader = `readBits` of Model/Tsdl.lean, defined from the CTF 1.8 bit-order rules only;
  (3) what the metadata says = `tsdlStruct` (transcription of tsdl182gen.py and the metadata
  templates).  Proved here, for every carrier type, value, size, offset, prior buffer content:
    * scalar_roundtrip — reading a field back, in either byte order, returns the value written
      reduced mod 2^size; `signed_reduction` gives the signed interpretation; `memcpy_roundtrip`
      covers the fast path;
    * scalar_frame — a later write does not disturb the read of a field it does not overlap
      (so earlier fields of a record still read back after the following ones are written);
    * struct_alignment_agrees — the alignment a CTF reader computes for a structure from the text
      (maximum of `align(N)` and of the members' alignments, arrays → element, strings → 8) is the
      alignment `config.py` gives the structure and `cgen.py` aligns to;
    * static_start_bits_are_dynamic — the bit offset within the current byte which `_OpBuilder` tracks at
      generation time and passes to the macros as a constant start bit is, at every write of every tree it
      can build, the run-time `ctx->at % 8` (Proofs/Oib.lean): serialising with the built tree = serialising
      with all start bits computed at run time;
    * member_text_agrees — per member, the TSDL text states the size, alignment and signedness the
      serialiser uses, and the array lengths outermost first.
    * record_roundtrip — **whole root structures**: for every structure of user members (scalars, strings,
      static arrays of any nesting and length, dynamic arrays), every argument list, byte order, starting
      position and buffer, if every store is inside the buffer then reading the buffer back *by the metadata*
      (`readStruct (tsdlStruct S)`) returns, member by member, the traced values reduced to their fields, and
      stops where the tracer stopped; nothing below the starting position is modified (Proofs/RoundTrip.lean).
      Hypotheses, all evaluated on a concrete record below: scalars well formed, string arguments without NUL,
      `8·L + 2·align ≤ 2^32` (no `uint32_t` wrap: finding F11's territory), the memcpy fast path only on a
      little-endian host, and each sequence's length member decodes to the count the tracer used
      (`LenScopeOK`; `lenScopeOKb` is its executable form).
  Still partial (`decode_serialize_partial`): the composition to whole *packets* — headers and contexts written
  through the specialised templates (magic, sizes written back at closing, timestamps), several records, the
  content-size bound — is not proved; it is evaluated on every run by three ties: the real operation trees equal
  the model's, the parsed real metadata equals `tsdlStruct`, and real packets decoded by the Python reader (from
  the real metadata) and by the Lean reader (from `tsdlStruct`) agree with each other and with the traced
  arguments.
-/
import BVM.Proofs.RoundTripPre
namespace BVM

theorem scalar_roundtrip (bo : ByteOrder) (vt : CInt) (buf : Buf) (base start len : Nat) (v : Int)
    (hb : base + (start + len + 7) / 8 ≤ buf.length) :
    readBits bo (bfWrite bo vt buf base start len v) (8 * base + start) len = (v % (2 : Int) ^ len).toNat :=
  read_write bo vt buf base start len v hb

theorem signed_reduction (size : Nat) (hs : 0 < size) (v : Int) :
    signExtend true size ((v % (2 : Int) ^ size).toNat) =
      (if (v % (2 : Int) ^ size) < (2 : Int) ^ (size - 1) then v % (2 : Int) ^ size else v % (2 : Int) ^ size - (2 : Int) ^ size) :=
  signExtend_reduce size hs v

theorem memcpy_roundtrip (buf : Buf) (base n x : Nat) (hb : base + n ≤ buf.length) :
    readBitsLE (memcpyLE n buf base x) (8 * base) (8 * n) = x % 2 ^ (8 * n) :=
  readLE_memcpy buf base n x hb

theorem scalar_frame (bo : ByteOrder) (vt : CInt) (buf : Buf) (base start len : Nat) (v : Int)
    (hb : base + (start + len + 7) / 8 ≤ buf.length) (at_ n : Nat)
    (hd : at_ + n ≤ 8 * base + start ∨ 8 * base + start + len ≤ at_) :
    readBits bo (bfWrite bo vt buf base start len v) at_ n = readBits bo buf at_ n :=
  read_frame bo vt buf base start len v hb at_ n hd

theorem struct_alignment_agrees (s : Struct) : (tsdlStruct s).effAlign = s.align := effAlign_eq s

/-- what the text says about a scalar member is what the serialiser writes: same size, alignment and
    signedness -/
theorem member_text_agrees (name : String) (sg : Bool) (sz al : Nat) :
    tsdlMember ⟨name, .el (.sc (.int sg sz al))⟩ = ⟨name, .int sg sz al, []⟩ ∧
    (Scalar.int sg sz al).size = sz ∧ (Scalar.int sg sz al).carrier.signed = sg := ⟨rfl, rfl, rfl⟩

/-- the C carrier type chosen for an integer field holds the whole field (so C08's `len ≤ width`) -/
theorem carrier_holds_field (sg : Bool) (sz al : Nat) (h : sz ≤ 64) : sz ≤ (Scalar.int sg sz al).carrier.width :=
  cWidth_ge h

/-- array lengths are stated outermost first -/
theorem lengths_outermost_first (n : Nat) (e : Elem) : elemLens (.sarr n e) = .lit n :: elemLens e := rfl

/-- **the static start bits are the run-time ones**: `_OpBuilder` (cgen.py) tracks the bit offset within the
    current byte at generation time and hands it to the bit-field macros as their start bit.  For every root
    structure whose alignments are powers of two, every specialisation table, every argument list and every
    state, serialising with the tree it builds equals serialising with the same tree in which every write
    computes its start bit as `ctx->at % 8`: the tracked offset is never wrong — after alignments of 1, 2, 4
    bits, after strings, across static and dynamic arrays of any length (zero included) and nesting. -/
theorem static_start_bits_are_dynamic (env : SerEnv) (pfx : String) (args : Args) (spec : String → Option WSrc)
    (S : Struct) (hS : ∃ j, S.align = 2 ^ j) (hms : ∀ m ∈ S.members, m.ft.AlOK ∧ specOK spec m) (s : SerSt) :
    serRoot env pfx (buildRoot spec S) args s = serRoot env pfx (buildRoot spec S).erase args s :=
  buildRoot_transparent env pfx args spec S hS hms s

/-- **record-level round trip** (`decode ∘ serialise = id` on one root structure).  Let `S` be a root structure
    (payload, specific/common context, …: no specialised template, no UUID member) whose alignment is a power of
    two and whose members' scalars are well formed (`MemberOK`: sizes 1–64, alignments powers of two, string
    arguments are C strings); let the tracer serialise `args` with the operation tree `_OpBuilder` builds, from any
    state `s` whose position is inside a buffer of `L` bytes (`8·L + 2·align ≤ 2^32`), with every store inside the
    buffer (`oob = false`: what C02 is about), in either byte order, the memcpy fast path being taken only on a
    little-endian host (`Frame.fast`).  Then a CTF 1.8 reader that follows the *metadata* (`tsdlStruct S`: sizes,
    alignments, byte order, array lengths, the sequence length read from the earlier member it names) from the
    same starting position returns, member by member, exactly the traced values reduced to their fields
    (`decMember`), and ends where the tracer ended; the bits below the starting position are untouched (so records
    and packet fields written earlier still read back). -/
theorem record_roundtrip (env : SerEnv) (pfx : String) (args : Args) (S : Struct) (s : SerSt) (L : Nat)
    (F : Frame env L S.align) (hS : ∃ j, S.align = 2 ^ j) (hms : ∀ m ∈ S.members, MemberOK S.align pfx args m)
    (hsc : LenScopeOK pfx args S.members []) (hlen : s.buf.length = L) (hat : s.at_ ≤ 8 * L)
    (h : (serRoot env pfx (buildRoot specNone S) args s).oob = false) :
    readStruct env.bo (serRoot env pfx (buildRoot specNone S) args s).buf (8 * L) (tsdlStruct S) s.at_ =
      some (S.members.map (fun m => (m.name, decMember pfx args m)), (serRoot env pfx (buildRoot specNone S) args s).at_) ∧
    PrefixEq env.bo s.at_ s.buf (serRoot env pfx (buildRoot specNone S) args s).buf ∧
    s.at_ ≤ (serRoot env pfx (buildRoot specNone S) args s).at_ :=
  struct_roundtrip env pfx args S s L F hS hms hsc hlen hat h

/-- the same under one **executable** precondition (`rootPreb`, Model/Decode.lean: alignments powers of two, sizes
    1–64, C strings, sequence lengths found and equal to the counts written, no 2^32 wrap, fast path only on a
    little-endian host).  The driver evaluates `rootPreb` on the records the harness traces with the real tracer
    (op `rtpre`), so the theorem is known to be about those records. -/
theorem record_roundtrip_exec (env : SerEnv) (pfx : String) (args : Args) (S : Struct) (s : SerSt)
    (hpre : rootPreb env s.buf.length pfx args S s.at_ = true)
    (h : (serRoot env pfx (buildRoot specNone S) args s).oob = false) :
    readStruct env.bo (serRoot env pfx (buildRoot specNone S) args s).buf (8 * s.buf.length) (tsdlStruct S) s.at_ =
      some (S.members.map (fun m => (m.name, decMember pfx args m)), (serRoot env pfx (buildRoot specNone S) args s).at_) ∧
    PrefixEq env.bo s.at_ s.buf (serRoot env pfx (buildRoot specNone S) args s).buf ∧
    s.at_ ≤ (serRoot env pfx (buildRoot specNone S) args s).at_ :=
  struct_roundtrip_exec env pfx args S s hpre h

/-- the hypothesis on sequence lengths is a consequence of the structure's shape: if each dynamic array's length member
    (`__<name>_len`, generated by the front end in front of the array) is an unsigned integer of at most 32 bits that no
    later member shadows, and the length argument fits it, then every sequence finds its count (`LenScopeOK`) -/
theorem length_scope_from_structure (pfx : String) (args : Args) (S : Struct) (h : LenSyn pfx args [] S.members) :
    LenScopeOK pfx args S.members [] := by
  have := lenScopeOK_of_lenSyn pfx args S.members [] h
  simpa [scopeOf] using this

/-- the side conditions on a member follow from the well-formedness the front end guarantees -/
theorem member_side_conditions (S : Struct) (hS : ∃ j, S.align = 2 ^ j) (pfx : String) (args : Args) (m : Member)
    (hm : m ∈ S.members) (hnu : m.ft ≠ .uuid) (hwf : m.ft.leaf.WF) (hl : ∀ l ∈ args.get (pfx ++ "_" ++ m.name), LeafOK l) :
    MemberOK S.align pfx args m := memberOK_of S hS pfx args m hm hnu hwf hl

/-! Non-vacuity -/
/-- a structure with a 5-bit element aligned on 8 in a dynamic array followed by a bit-packed member (the shape
    on which a builder that keeps the element's offset after the loop goes wrong when the array is empty) meets
    the hypotheses, and its tree does carry static offsets -/
def c01S : Struct := ⟨1, [⟨"n", .el (.sc (.int false 8 8))⟩, ⟨"a", .darr "n" (.sc (.int false 5 8))⟩,
                           ⟨"t", .el (.sc (.int false 4 1))⟩, ⟨"u", .el (.sc (.int false 3 2))⟩]⟩
example : (∃ j, c01S.align = 2 ^ j) ∧ ∀ m ∈ c01S.members, m.ft.AlOK ∧ specOK specNone m := by
  refine ⟨⟨3, by decide⟩, ?_⟩
  intro m hm
  simp only [c01S, List.mem_cons, List.mem_nil_iff, or_false] at hm
  rcases hm with rfl | rfl | rfl | rfl
  · exact ⟨⟨3, rfl⟩, by simp [specOK, specNone]⟩
  · exact ⟨⟨3, rfl⟩, by simp [specOK]⟩
  · exact ⟨⟨0, rfl⟩, by simp [specOK, specNone]⟩
  · exact ⟨⟨1, rfl⟩, by simp [specOK, specNone]⟩
example : (buildRoot specNone c01S).members =
    [.el "n" (.leaf (some 8) ⟨.arg, .int false 8 8, some 0⟩),
     .dloop "a" (some 8) "n" (.leaf (some 8) ⟨.arg, .int false 5 8, none⟩),
     .el "t" (.leaf none ⟨.arg, .int false 4 1, none⟩),
     .el "u" (.leaf (some 2) ⟨.arg, .int false 3 2, none⟩)] := by decide

example : readBits .be (bfWrite .be ⟨16, true⟩ [0, 0, 0, 0] 1 3 13 (-2)) (8 * 1 + 3) 13 = 8190 := by decide
example : signExtend true 13 8190 = -2 := by decide

/-- a record with a sequence of 5-bit elements aligned on 8, bit-packed members, a signed value and a string,
    serialised big endian from bit 3 of a 16-byte buffer of ones: every hypothesis of `record_roundtrip` holds … -/
def c01R : Struct := ⟨1, [⟨"n", .el (.sc (.int false 8 8))⟩, ⟨"a", .darr "n" (.sc (.int false 5 8))⟩,
                           ⟨"t", .el (.sc (.int true 4 1))⟩, ⟨"u", .el (.sarr 2 (.sc (.int false 3 2)))⟩,
                           ⟨"s", .el (.sc .str)⟩]⟩
def c01Env : SerEnv := ⟨.be, false, [], 0, 0, 0, 0, 0⟩
def c01Args : Args := [("p_n", [.num 2]), ("p_a", [.num 5, .num 33]), ("p_t", [.num (-3)]), ("p_u", [.num 6, .num 9]),
                       ("p_s", [.str [104, 105]])]
def c01St : SerSt := ⟨List.replicate 16 255, 3, [], [], false, []⟩

example : rootPreb c01Env c01St.buf.length "p" c01Args c01R c01St.at_ = true := by decide +kernel
example : LenSyn "p" c01Args [] c01R.members := by
  simp only [c01R, LenSyn, List.nil_append, List.cons_append]
  refine ⟨by simp, ?_, by simp, by simp, by simp, trivial⟩
  intro ln e hft
  simp only [FT.darr.injEq] at hft
  obtain ⟨rfl, rfl⟩ := hft
  exact ⟨[], [], 8, 8, rfl, by simp, by decide, by decide +kernel, by decide +kernel⟩
example : Frame c01Env 16 c01R.align := ⟨by simp [c01Env], by decide, by decide⟩
example : (serRoot c01Env "p" (buildRoot specNone c01R) c01Args c01St).oob = false := by decide +kernel
example : LenScopeOK "p" c01Args c01R.members [] := lenScopeOKb_sound _ _ _ _ (by decide +kernel)
example : ∀ m ∈ c01R.members, MemberOK c01R.align "p" c01Args m := by
  intro m hm
  have hS : ∃ j, c01R.align = 2 ^ j := ⟨3, by decide⟩
  have hm' := hm
  simp only [c01R, List.mem_cons, List.mem_nil_iff, or_false] at hm'
  rcases hm' with rfl | rfl | rfl | rfl | rfl
  · exact memberOK_of c01R hS _ _ _ hm (by simp) ⟨by decide, by decide, 3, rfl⟩ (by decide +kernel)
  · exact memberOK_of c01R hS _ _ _ hm (by simp) ⟨by decide, by decide, 3, rfl⟩ (by decide +kernel)
  · exact memberOK_of c01R hS _ _ _ hm (by simp) ⟨by decide, by decide, 0, rfl⟩ (by decide +kernel)
  · exact memberOK_of c01R hS _ _ _ hm (by simp) ⟨by decide, by decide, 1, rfl⟩ (by decide +kernel)
  · exact memberOK_of c01R hS _ _ _ hm (by simp) trivial (by decide +kernel)
/-- … and the reader returns 2; 5, 33 mod 32 = 1; −3; 6, 9 mod 8 = 1; "hi" -/
example : readStruct .be (serRoot c01Env "p" (buildRoot specNone c01R) c01Args c01St).buf 128 (tsdlStruct c01R) 3 =
    some ([("n", [.num 2]), ("a", [.num 5, .num 1]), ("t", [.num (-3)]), ("u", [.num 6, .num 1]), ("s", [.str [104, 105]])],
          (serRoot c01Env "p" (buildRoot specNone c01R) c01Args c01St).at_) := by decide +kernel

#print axioms scalar_roundtrip
#print axioms signed_reduction
#print axioms memcpy_roundtrip
#print axioms scalar_frame
#print axioms elem_leaf_align
#print axioms tsdlScalar_align
#print axioms tsdlMember_align
#print axioms foldl_align_map
#print axioms struct_alignment_agrees
#print axioms member_text_agrees
#print axioms carrier_holds_field
#print axioms lengths_outermost_first
#print axioms static_start_bits_are_dynamic
#print axioms record_roundtrip
#print axioms record_roundtrip_exec
#print axioms length_scope_from_structure
#print axioms member_side_conditions
end BVM
