/-
  Props/C11.lean — property C11: the effective configuration is equivalent to the original and a
  fixed point.

  Model: Model/Expand.lean (`expand3`: inclusions, field type expansion, log level substitution,
  property normalisation, in the order of `config_parse_v3._parse`) and Model/V2.lean (`expand2`).
  Tie: checks/c11.py compares, for generated valid documents of both dialects (re-expressed with
  inclusions, alias and inheritance chains, null resets, every spelling alias), the document printed by
  the real `effective_configuration_file` (re-loaded) with `expand3` / `expand2`, tree for tree including
  key order; the property's own relation between two runs of the tool (byte-identical generated files
  from the original and from the effective document; printing again gives the same text) is evaluated
  on the implementation.

  Proved for all documents, worlds and fuel:
   * `effective_marks`: whatever `expand3` returns has no `$field-type-aliases` and no
     `$log-level-aliases`, its trace type node is a fixed point of the property normalisation and holds no
     `null` property, and the trace node has no `null` environment;
   * `effective_fixed_point`: a node with those marks and no `$include` at any includable object is
     returned unchanged by the whole pipeline, in any world;
   * `normalisation_idempotent`, `null_reset_removed`;
   * `inclusion_stage_leaves_no_include`, `inclusion_stage_idempotent`, `inclusion_stage_keys_distinct`: for every
     world and node whose mappings hold each key at most once (what PyYAML loads), whatever the inclusion stage
     returns has no `$include` at any includable object, holds each key once at every includable object, and is
     returned unchanged by a second run of the stage in any world (Proofs/NoInclude.lean; the hypothesis is
     necessary: with a key listed twice the unprocessed second occurrence can carry an `$include` through).
  Not proved (recorded): that the three later stages keep the result free of `$include` and that no alias name /
  `$inherit` is left inside field types (so `expand3 (expand3 d) = expand3 d` is proved only through
  `effective_fixed_point`'s hypotheses, which the check evaluates on every real effective document); equality of
  generated files is an implementation-side oracle.
-/
import BVM.Proofs.Fixed
import BVM.Proofs.Expand
import BVM.Proofs.NoInclude
namespace BVM

theorem normalisation_idempotent (y : Y) : normProps (normProps y) = normProps y := normProps_idem y

/-- a property reset with `null` is absent from the normalised mapping -/
theorem null_reset_removed (k : String) (m : KVs) (hnd : (kvKeys m).Nodup) (h : kvGet k m = some .null) :
    kvGet k (normPropsM m) = none := normPropsM_null_removed k m hnd h

theorem no_null_property_left (k : String) (m : KVs) : kvGet k (normPropsM m) ≠ some .null :=
  normPropsM_no_null k m

/-- marks of whatever the pipeline returns -/
theorem effective_marks (W : World) (fuel : Nat) (cfg e : KVs) (h : expand3 W fuel cfg = .ok e) :
    ∃ trm tt, kvGet "trace" e = some (.map trm) ∧ kvGet "type" trm = some (.map tt) ∧
      kvGet "$field-type-aliases" tt = none ∧ kvGet "$log-level-aliases" tt = none ∧
      normPropsM tt = tt ∧ (∀ k, kvGet k tt ≠ some .null) ∧ kvGet "environment" trm ≠ some .null := by
  obtain ⟨tr, trm, tt, tt1, tt2, trm2, _, _, _, h1, h2, h3, rfl⟩ := expand3_ok h
  obtain ⟨tt2', bo, hty, _, hty', henv⟩ := normalizeTrace_ok h3
  rw [kvGet_kvSet, if_pos rfl] at hty
  obtain rfl : tt2 = tt2' := by cases hty; rfl
  -- both alias properties are gone from `tt2`: neither is the byte order key, and normalisation adds no key
  have ha : kvGet "$field-type-aliases" tt2 = none := by
    rw [kvGet_none_congr (subLogLevels_keys h2), kvGet_kvErase, if_neg (by simp),
      kvGet_none_congr (expandFts3_keys h1), kvGet_kvErase, if_pos rfl]
  have hl : kvGet "$log-level-aliases" tt2 = none := by
    rw [kvGet_none_congr (subLogLevels_keys h2), kvGet_kvErase, if_pos rfl]
  have hk : traceByteOrderKey tt2 ≠ "$field-type-aliases" ∧ traceByteOrderKey tt2 ≠ "$log-level-aliases" := by
    unfold traceByteOrderKey
    split <;> simp
  refine ⟨trm2, _, by rw [kvGet_kvSet, if_pos rfl], hty', normPropsM_keeps_none ?_, normPropsM_keeps_none ?_,
    normPropsM_idem _, fun k => normPropsM_no_null k _, henv⟩
  · rw [kvGet_kvSet, if_neg hk.1]; exact ha
  · rw [kvGet_kvSet, if_neg hk.2]; exact hl

/-- an effective node (the marks above, the trace byte order spelled canonically, no `$include` at any
    includable object) is a fixed point of the pipeline, whatever the inclusion directories hold -/
theorem effective_fixed_point (W : World) (fuel : Nat) (cfg trm tt : KVs) (bo : Y)
    (h : Effective cfg trm tt bo) (hfuel : 4 ≤ fuel) : expand3 W fuel cfg = .ok cfg := by
  have h1 : procInclude W fuel [] .trace (.map trm) = .ok (.map trm) :=
    procInclude_free W fuel [] .trace _ (includeFree_le 4 fuel _ _ hfuel h.hinc)
  have h4 : kvSet "type" (.map tt) trm = trm := kvSet_of_get h.htype
  have h5 : normalizeTrace trm = .ok trm := by
    simp only [normalizeTrace, h.htype, h.hbo, h.hbon, kvSet_of_get h.hbo, h.hnorm, h4]
    split
    · exact absurd ‹_› h.henv
    · rfl
  simp only [expand3, h.htrace, h1, Except.ok_bind, h.htype, expandFts3_noalias fuel tt h.hfta,
    subLogLevels_noalias tt h.hlla, h4, h5, kvSet_of_get h.htrace]

/-- **the inclusion stage leaves no inclusion behind**: for every world whose files, and every node which,
    hold each mapping key at most once (`Y.dk`: anything PyYAML loads), whatever `procInclude` returns for an
    object of kind `kd` has no `$include` property at any includable object below it (and every present child
    has the shape its kind requires) -/
theorem inclusion_stage_leaves_no_include (W : World) (hW : W.dk) (fuel : Nat) (stack : Stack) (kd : Kind)
    (y y' : Y) (hdk : y.dk = true) (h : procInclude W fuel stack kd y = .ok y') :
    includeFree kd.rank kd y' = true :=
  good_includeFree kd.rank kd y' (Nat.le_refl _) ((procInclude_good W hW fuel stack kd y kd.rank hdk).elim_ok h)

/-- …so running the inclusion stage again on its result, in *any* world, returns it unchanged -/
theorem inclusion_stage_idempotent (W W' : World) (hW : W.dk) (fuel fuel' : Nat) (stack stack' : Stack) (kd : Kind)
    (y y' : Y) (hdk : y.dk = true) (h : procInclude W fuel stack kd y = .ok y') (hfuel : kd.rank ≤ fuel') :
    procInclude W' fuel' stack' kd y' = .ok y' :=
  procInclude_free W' fuel' stack' kd y'
    (includeFree_le kd.rank fuel' kd y' hfuel (inclusion_stage_leaves_no_include W hW fuel stack kd y y' hdk h))

/-- the result of the inclusion stage holds each key at most once at every includable object -/
theorem inclusion_stage_keys_distinct (W : World) (hW : W.dk) (fuel : Nat) (stack : Stack) (kd : Kind)
    (y : Y) (m' : KVs) (hdk : y.dk = true) (h : procInclude W fuel stack kd y = .ok (.map m')) :
    (kvKeys m').Nodup :=
  ((procInclude_good W hW fuel stack kd y 1 hdk).elim_ok h).2.1

/-! ### non-vacuity -/

def c11Doc : KVs :=
  [("trace", .map [("type", .map [
      ("$include", .str "base.yaml"),
      ("native-byte-order", .str "le"),
      ("$field-type-aliases", .map [("u8", .map [("class", .str "uint"), ("size", .int 8), ("alignment", .int 16)]),
                                    ("b", .str "u8")]),
      ("$log-level-aliases", .map [("WARN", .int 4)]),
      ("data-stream-types", .map [("d", .map [("event-record-types", .map [("e", .map [
          ("log-level", .str "WARN"),
          ("payload-field-type", .map [("class", .str "struct"), ("members", .seq [
              .map [("x", .str "b")],
              .map [("y", .map [("field-type", .map [("$inherit", .str "u8"), ("alignment", .null)])])]])])])])])])])])]

def c11W : World := { dirs := [[("base.yaml", .map [("uuid", .null), ("data-stream-types", .map [("d", .map [("$is-default", .bool true)])])])]] }

def c11Eff : KVs :=
  [("trace", .map [("type", .map [
      ("data-stream-types", .map [("d", .map [("$is-default", .bool true), ("event-record-types", .map [("e", .map [
          ("log-level", .int 4),
          ("payload-field-type", .map [("class", .str "structure"), ("members", .seq [
              .map [("x", .map [("field-type", .map [("class", .str "unsigned-integer"), ("size", .int 8), ("alignment", .int 16)])])],
              .map [("y", .map [("field-type", .map [("class", .str "unsigned-integer"), ("size", .int 8)])])]])])])])])]),
      ("native-byte-order", .str "little-endian")])])]

/-- inclusion, alias chain, short member form, inheritance with a null reset, log level alias, spelling
    aliases and a null property, all in one document -/
example : expand3 c11W 32 c11Doc = .ok c11Eff := (FR.isOkWith_iff _ _).mp (by decide +kernel)

/-- …and its effective document meets the hypotheses of `effective_fixed_point` -/
theorem c11Eff_effective : ∃ trm tt bo, Effective c11Eff trm tt bo := by
  refine ⟨_, _, .str "little-endian", ⟨rfl, rfl, by decide +kernel, by decide +kernel, by decide +kernel,
    by decide +kernel, rfl, by decide +kernel, by decide +kernel⟩⟩

example : ∃ trm tt bo, Effective c11Eff trm tt bo := c11Eff_effective

/-- the world and the document of the example meet the distinct-keys hypothesis, and the inclusion stage succeeds on it -/
example : c11W.dk ∧ (Y.map c11Doc).dk = true := by
  refine ⟨?_, by decide +kernel⟩
  intro d hd f hf
  simp only [c11W, List.mem_singleton] at hd
  subst hd
  simp only [List.mem_singleton] at hf
  subst hf
  decide +kernel

example : ∃ tr tr1, kvGet "trace" c11Doc = some tr ∧ procInclude c11W 32 [] .trace tr = .ok tr1 ∧
    includeFree 4 .trace tr1 = true :=
  let ⟨tr1, h⟩ := FR.ok_of_test (x := procInclude c11W 32 [] .trace _) (p := includeFree 4 .trace) (by decide +kernel)
  ⟨_, tr1, rfl, h⟩

/-- …so the pipeline returns it unchanged -/
example : expand3 { dirs := [] } 4 c11Eff = .ok c11Eff :=
  let ⟨_, _, _, h⟩ := c11Eff_effective
  effective_fixed_point _ 4 _ _ _ _ h (Nat.le_refl 4)

end BVM

#print axioms BVM.c11Eff_effective
#print axioms BVM.normalisation_idempotent
#print axioms BVM.null_reset_removed
#print axioms BVM.no_null_property_left
#print axioms BVM.effective_marks
#print axioms BVM.effective_fixed_point
#print axioms BVM.inclusion_stage_leaves_no_include
#print axioms BVM.inclusion_stage_idempotent
#print axioms BVM.inclusion_stage_keys_distinct
