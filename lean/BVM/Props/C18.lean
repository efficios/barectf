/-
  Props/C18.lean — property C18: a barectf 2 configuration behaves exactly like its barectf 3
  equivalent.

  Model: Model/V2.lean (`convert2`: barectf 2 inclusions, field type expansion and
  `_transform_config_node` / `_conv_*`; `expand2` = `convert2` then the barectf 3 pipeline).
  Tie: checks/c18.py compares, on generated barectf 2 documents (plain and decorated with aliases,
  inheritance, inclusions), the node the real barectf 2 parser hands to the barectf 3 parser with
  `convert2`, and the real effective document with `expand2`; the abstract field types of this file are
  rendered by the Lean driver and by the harness's own renderers and compared; the property's relation
  (identical generated files from the barectf 2 document and from the hand-derived barectf 3 document of
  the same abstract configuration; version 2 / 3 reported) is evaluated on the implementation.

  Proved, for every abstract field type expressible in the barectf 2 dialect (integers with all optional
  properties, enumerations, reals, strings, static and dynamic arrays, structures, nested to any depth):
   * `field_type_conversion`: converting its barectf 2 spelling yields exactly its barectf 3 spelling;
   * `enum_mappings`: the mappings of a label are the values of the members bearing it, in member order;
     implicit values are 0 / previous (last) value + 1;
   * `prefix_split`, `prefix_no_trailing_underscore`: identifier prefix = file name prefix followed by
     underscores only.
   * `stream_conversion`: a whole abstract data stream type (reserved packet context / event header members,
     extra members, common context, event record types) converts to its barectf 3 spelling: features inferred
     from the reserved members, default clock from the property mappings.
  Not proved (covered by the correspondence and the implementation-side oracle only): the metadata level of
  the conversion (packet header features, clock type renames, `$default-stream`, options, environment) and that
  equal effective documents give equal generated files.
-/
import BVM.Proofs.V2
import BVM.Proofs.V2Stream
namespace BVM

theorem field_type_conversion (a : AFt) (fuel : Nat) (h : a.depth ≤ fuel) : convFt fuel a.r2 = .ok a.r3 :=
  convFt_r2 a fuel h

theorem struct_members_in_order (fs : List (String × AFt)) (fuel : Nat) (h : AFt.depthFields fs ≤ fuel) :
    (AFt.r2Fields fs).mapM (convField (convFt fuel)) = .ok (AFt.r3Members fs) := convFields_r2 fs fuel h

theorem int_conversion (i : AInt) : convIntFt i.r2 = i.r3 := convIntFt_r2 i

/-- the barectf 3 mappings of a label are exactly the values of the barectf 2 members bearing that label,
    in member order (none if no member bears it) -/
theorem enum_mappings (ms : List AMember) (l : String) :
    kvGet l (mappingsOf ms) =
      if valsOf l (memberVals ms 0) = [] then none else some (.seq (valsOf l (memberVals ms 0))) :=
  kvGet_foldl_pushLabel l _ []

theorem enum_conversion (ms : List AMember) :
    convEnumMembers (ms.map AMember.r2) 0 [] = .ok (mappingsOf ms) := convEnumMembers_spec ms 0 []

theorem enum_implicit_first (l : String) (r : List AMember) :
    (memberVals (.implicit l :: r) 0).head? = some (l, .int 0) := rfl

theorem enum_implicit_after_value (l l' : String) (v : Int) (r : List AMember) (cur : Int) :
    memberVals (.value l v :: .implicit l' :: r) cur = (l, .int v) :: (l', .int (v + 1)) :: memberVals r (v + 1 + 1) := rfl

theorem enum_implicit_after_range (l l' : String) (a b : Int) (r : List AMember) (cur : Int) :
    memberVals (.range l a b :: .implicit l' :: r) cur =
      (l, .seq [.int a, .int b]) :: (l', .int (b + 1)) :: memberVals r (b + 1 + 1) := rfl

theorem v2_prefix_split (p : String) : ∃ n, p.toList = (rstripUnderscores p).toList ++ List.replicate n '_' :=
  prefix_split p

theorem v2_file_prefix_no_trailing_underscore (p : String) : (rstripUnderscores p).toList.getLast? ≠ some '_' :=
  prefix_no_trailing_underscore p

/-- a whole data stream type: the barectf 2 spelling converts to the barectf 3 spelling — features enabled
    exactly for the reserved members that exist (with their converted types), default clock inferred from the
    property mappings (event header `timestamp` first, then `timestamp_begin`, then `timestamp_end`), the other
    packet context members kept as extra members in order, event record types and log levels carried over.
    Preconditions: no user member bears a reserved name (they would be features), and `timestamp_begin` /
    `timestamp_end` are mapped to the same clock (otherwise the converter reports a configuration error). -/
theorem stream_conversion (s : AStream) (hx : ExtrasOK s) (hc : ClocksAgree s) (fuel : Nat)
    (h1 : 1 ≤ fuel) (hd : s.depth ≤ fuel) : convDst fuel s.r2 = .ok s.r3 := convDst_r2 s hx hc fuel h1 hd

theorem stream_default_clock (s : AStream) (hx : ExtrasOK s) (hc : ClocksAgree s) :
    defaultClock s.pcFields s.ehFields = .ok (s.clock.map Y.str) := defaultClock_r2 s hx hc

theorem stream_features (s : AStream) (hx : ExtrasOK s) (fuel : Nat) (h : 1 ≤ fuel) :
    dstFeatures fuel s.pcFields s.ehFields = .ok s.features := dstFeatures_r2 s hx fuel h

/-! ### non-vacuity -/

def c18Stream : AStream :=
  { isDefault := true,
    packetSize := ⟨32, false, false, some 32, none, none, none⟩,
    contentSize := ⟨32, false, false, none, none, none, none⟩,
    tsBegin := some ⟨64, false, false, none, none, some "clk", none⟩,
    tsEnd := some ⟨64, false, false, none, none, some "clk", none⟩,
    discarded := none, seqNum := some ⟨16, false, false, none, none, none, none⟩,
    extras := [("cpu", .int ⟨8, false, false, none, none, none, none⟩)],
    eh := some (some ⟨8, false, false, none, none, none, none⟩, none),
    ecc := none,
    events := [("e", ⟨some (.int 3), none, some ⟨none, [("x", .str none)]⟩⟩)] }

example : FR.isOkWith (convDst 8 c18Stream.r2) c18Stream.r3 = true :=
  (FR.isOkWith_iff _ _).mpr <| stream_conversion c18Stream (by unfold ExtrasOK; decide +kernel)
    (fun _ _ ha hb => (Option.some.inj ha).symm.trans (Option.some.inj hb)) 8 (by decide) (by decide)
example : c18Stream.clock = some "clk" := by decide +kernel


def c18Ft : AFt := .struct (some 8) [
  ("a", .int ⟨12, true, true, some 4, some "hex", some "clk", some "utf8"⟩),
  ("e", .enum ⟨8, false, false, none, none, none, none⟩ [.implicit "X", .range "Y" 5 7, .implicit "X", .value "Z" 20, .implicit "Y"]),
  ("arr", .darr (.sarr 3 (.float true (some 64)))),
  ("s", .str (some "ascii"))]

example : c18Ft.depth ≤ 5 := by decide

example : mappingsOf [.implicit "X", .range "Y" 5 7, .implicit "X", .value "Z" 20, .implicit "Y"] =
    [("X", .seq [.int 0, .int 8]), ("Y", .seq [.seq [.int 5, .int 7], .int 21]), ("Z", .seq [.int 20])] := by
  decide +kernel

example : FR.isOkWith (convFt 5 c18Ft.r2) c18Ft.r3 = true :=
  (FR.isOkWith_iff _ _).mpr (field_type_conversion c18Ft 5 (by decide))

example : rstripUnderscores "T_x__" = "T_x" := by decide +kernel

/-- a whole barectf 2 document through `convert2` -/
def c18Doc : KVs :=
  [("version", .str "2.2"), ("prefix", .str "my_"),
   ("metadata", .map [
     ("type-aliases", .map [("u8", .map [("class", .str "int"), ("size", .int 8)])]),
     ("clocks", .map [("clk", .map [("freq", .int 1000), ("$return-ctype", .str "uint32_t")])]),
     ("trace", .map [("byte-order", .str "le")]),
     ("streams", .map [("s", .map [
        ("packet-context-type", .map [("class", .str "struct"), ("fields", .map [
            ("timestamp_begin", .map [("class", .str "int"), ("size", .int 32),
                ("property-mappings", .seq [.map [("type", .str "clock"), ("name", .str "clk"), ("property", .str "value")]])]),
            ("timestamp_end", .map [("class", .str "int"), ("size", .int 32),
                ("property-mappings", .seq [.map [("type", .str "clock"), ("name", .str "clk"), ("property", .str "value")]])]),
            ("packet_size", .str "u8"), ("content_size", .str "u8"), ("cpu", .str "u8")])]),
        ("events", .map [("e", .map [("payload-type", .map [("class", .str "struct"), ("fields", .map [("x", .str "u8")])])])])])])])]

example : FR.isOkWith (convert2 { dirs := [] } 32 c18Doc)
    [("options", .map [("code-generation", .map [("prefix", .map [("identifier", .str "my_"), ("file-name", .str "my")])])]),
     ("trace", .map [("type", .map [
        ("trace-byte-order", .str "le"),
        ("clock-types", .map [("clk", .map [("frequency", .int 1000), ("$c-type", .str "uint32_t")])]),
        ("$features", .map [("magic-field-type", .bool false), ("uuid-field-type", .bool false),
                            ("data-stream-type-id-field-type", .bool false)]),
        ("data-stream-types", .map [("s", .map [
            ("$default-clock-type-name", .str "clk"),
            ("$features", .map [
              ("packet", .map [("total-size-field-type", .map [("class", .str "uint"), ("size", .int 8)]),
                               ("content-size-field-type", .map [("class", .str "uint"), ("size", .int 8)]),
                               ("beginning-timestamp-field-type", .map [("class", .str "uint"), ("size", .int 32)]),
                               ("end-timestamp-field-type", .map [("class", .str "uint"), ("size", .int 32)]),
                               ("discarded-event-records-counter-snapshot-field-type", .bool false),
                               ("sequence-number-field-type", .bool false)]),
              ("event-record", .map [("type-id-field-type", .bool false), ("timestamp-field-type", .bool false)])]),
            ("packet-context-field-type-extra-members", .seq [.map [("cpu", .map [("field-type", .map [("class", .str "uint"), ("size", .int 8)])])]]),
            ("event-record-types", .map [("e", .map [("payload-field-type", .map [("class", .str "struct"),
                ("members", .seq [.map [("x", .map [("field-type", .map [("class", .str "uint"), ("size", .int 8)])])]])])])])])])])])] = true := by
  decide +kernel

end BVM

#print axioms BVM.field_type_conversion
#print axioms BVM.struct_members_in_order
#print axioms BVM.int_conversion
#print axioms BVM.enum_mappings
#print axioms BVM.enum_conversion
#print axioms BVM.enum_implicit_first
#print axioms BVM.enum_implicit_after_value
#print axioms BVM.enum_implicit_after_range
#print axioms BVM.v2_prefix_split
#print axioms BVM.v2_file_prefix_no_trailing_underscore
#print axioms BVM.stream_conversion
#print axioms BVM.stream_default_clock
#print axioms BVM.stream_features
