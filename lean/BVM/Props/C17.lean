/-
  Props/C17.lean — property C17: contexts are independent; one context per thread needs no locking.

  The generated tracer is modelled as functions of *one* context state (`St`: the context structure,
  its packet buffer, the platform data it was given) — no function of Model/Rt.lean has any other
  input or output.  That this is true of the generated C (no writable file-scope object, no static
  local variable that is written) is not a theorem but a checked fact about the compiled object:
  the check inspects the symbol table (`nm`) of every generated tracer and runs interleaved
  histories on two contexts (same and different data stream types), thorough: two threads under
  ThreadSanitizer.  Given that, for any number of contexts and any interleaving of their API calls:
    * step_frame — a call on context `i` changes nothing of any other context;
    * interleaving_equals_projection — each context ends in exactly the state (buffer, log, hence
      packets delivered) it reaches when its own calls are run alone, in their own order;
    * steps_commute — calls on distinct contexts commute;
    * disjoint_footprints_commute — on a shared byte-addressed memory (sequentially consistent), two
      store sequences with disjoint footprints leave the same memory under every interleaving.
  Not modelled: hardware memory models weaker than sequential consistency, and interleavings below
  the granularity of one store.
-/
import BVM.Model.Rt
namespace BVM

/-- any number of contexts, each with its own data stream type -/
abbrev Sys := Nat → St

def stepSys (cfg : Cfg) (dOf : Nat → DST) (σ : Sys) (x : Nat × Op) : Sys :=
  fun j => if j = x.1 then stepOp cfg (dOf j) x.2 (σ j) else σ j

def runSys (cfg : Cfg) (dOf : Nat → DST) (l : List (Nat × Op)) (σ : Sys) : Sys :=
  l.foldl (stepSys cfg dOf) σ

/-- the calls of context `i`, in their own order -/
def proj (i : Nat) (l : List (Nat × Op)) : List Op := (l.filter (fun x => x.1 = i)).map (·.2)

theorem step_frame (cfg : Cfg) (dOf : Nat → DST) (σ : Sys) (i j : Nat) (op : Op) (h : j ≠ i) :
    stepSys cfg dOf σ (i, op) j = σ j := by
  simp [stepSys, h]

theorem interleaving_equals_projection (cfg : Cfg) (dOf : Nat → DST) (l : List (Nat × Op)) (σ : Sys) (i : Nat) :
    runSys cfg dOf l σ i = runOps cfg (dOf i) (proj i l) (σ i) := by
  induction l generalizing σ with
  | nil => rfl
  | cons x xs ih =>
    obtain ⟨j, op⟩ := x
    refine (ih _).trans ?_
    by_cases h : j = i
    · subst h; simp [proj, runOps, stepSys]
    · rw [step_frame cfg dOf σ j i op (Ne.symm h)]; simp [proj, h]

theorem steps_commute (cfg : Cfg) (dOf : Nat → DST) (σ : Sys) (i j : Nat) (a b : Op) (h : i ≠ j) :
    stepSys cfg dOf (stepSys cfg dOf σ (i, a)) (j, b) = stepSys cfg dOf (stepSys cfg dOf σ (j, b)) (i, a) := by
  funext k
  simp only [stepSys]
  split <;> split <;> simp_all

/-! shared memory, sequentially consistent: a store is (address, byte) -/
abbrev Mem := Nat → Nat

def applyStore (m : Mem) (s : Nat × Nat) : Mem := fun a => if a = s.1 then s.2 else m a
def applyStores (l : List (Nat × Nat)) (m : Mem) : Mem := l.foldl applyStore m

/-- `l` is an interleaving of `a` and `b` (each keeping its own order) -/
inductive Interleave : List (Nat × Nat) → List (Nat × Nat) → List (Nat × Nat) → Prop
  | nil : Interleave [] [] []
  | left (x) {a b l} : Interleave a b l → Interleave (x :: a) b (x :: l)
  | right (x) {a b l} : Interleave a b l → Interleave a (x :: b) (x :: l)

def Disjoint (a b : List (Nat × Nat)) : Prop := ∀ x ∈ a, ∀ y ∈ b, x.1 ≠ y.1

theorem applyStore_comm (m : Mem) (x y : Nat × Nat) (h : x.1 ≠ y.1) :
    applyStore (applyStore m x) y = applyStore (applyStore m y) x := by
  funext a
  simp only [applyStore]
  split <;> split <;> simp_all

theorem applyStores_comm_one (b : List (Nat × Nat)) (x : Nat × Nat) (m : Mem) (h : ∀ y ∈ b, x.1 ≠ y.1) :
    applyStores b (applyStore m x) = applyStore (applyStores b m) x := by
  unfold applyStores
  induction b generalizing m with
  | nil => rfl
  | cons y ys ih =>
    simp only [List.foldl_cons]
    rw [applyStore_comm m x y (h y (by simp))]
    exact ih _ (fun z hz => h z (by simp [hz]))

theorem disjoint_footprints_commute (a b l : List (Nat × Nat)) (hi : Interleave a b l) (hd : Disjoint a b) (m : Mem) :
    applyStores l m = applyStores b (applyStores a m) := by
  induction hi generalizing m with
  | nil => rfl
  | @left x a' b' l' _ ih =>
    have hd' : Disjoint a' b' := fun u hu v hv => hd u (by simp [hu]) v hv
    show applyStores l' (applyStore m x) = applyStores b' (applyStores a' (applyStore m x))
    exact ih hd' _
  | @right x a' b' l' _ ih =>
    have hd' : Disjoint a' b' := fun u hu v hv => hd u hu v (by simp [hv])
    show applyStores l' (applyStore m x) = applyStores b' (applyStore (applyStores a' m) x)
    rw [ih hd', applyStores_comm_one a' x m (fun y hy => (hd y hy x (by simp)).symm)]

/-! Non-vacuity -/
example : Interleave [(1, 7), (2, 8)] [(5, 9)] [(1, 7), (5, 9), (2, 8)] :=
  .left _ (.right _ (.left _ .nil))
example : Disjoint [(1, 7), (2, 8)] [(5, 9)] := by
  intro x hx y hy; simp at hx hy; rcases hx with rfl | rfl <;> subst hy <;> decide

#print axioms step_frame
#print axioms interleaving_equals_projection
#print axioms steps_commute
#print axioms applyStore_comm
#print axioms applyStores_comm_one
#print axioms disjoint_footprints_commute
end BVM
