/-
  Props/C03.lean — property C03: each tracing call is recorded exactly once, in order, or counted as
  discarded.

  What is proved here (over the runtime model, for every configuration, history, platform script and
  buffer size; `recDone`/`discard`/`traceCall`/`fullAnswer` are ghost events of Model/Rt.lean):
    * calls_recorded_or_discarded — every tracing call that passed its enable test ends as exactly one
      serialised record or exactly one discard (unless the run halts on an out-of-bounds store or a
      failed assertion — those are C02's subject);
    * discarded_counter_exact — the discarded-records counter is the number of discards (mod 2^32);
    * discard_only_if — a record is refused only if it cannot fit an empty packet (the test against
      `packet_size - off_content`) or the back end answered "full" during the call.
    * records_laid_out_in_order — (one buffer size) every serialised record begins at or after the end of the
      previous record of its packet, or of the packet context, and ends inside the packet: no overlap, call order;
  What is NOT proved here and is carried by the correspondence + decoding oracle instead (named
  `records_exactly_once` in DESIGN.md): that decoding the delivered packet bytes with the metadata
  returns those records in call order, without overlap, inside the packet content.  That needs the
  layout round trip (C01) composed with the packet invariants; the size-staleness finding F8 makes
  the full statement false on the pinned tree (see DESIGN.md section 6).
-/
import BVM.Proofs.RtRec
import BVM.Proofs.RtPosB
namespace BVM

theorem calls_recorded_or_discarded (cfg : Cfg) (d : DST) (ops : List Op) (bytes : Nat) (p : Plat)
    (hn : (runOps cfg d ops (rtInit bytes p)).halted = false) :
    nCall (runOps cfg d ops (rtInit bytes p)).log =
      nRec (runOps cfg d ops (rtInit bytes p)).log + nDisc (runOps cfg d ops (rtInit bytes p)).log :=
  runOps_bal cfg d ops (rtInit bytes p) (fun _ => rfl) hn

/-- the same without the "run did not halt" hypothesis, for platforms whose packet buffers all have one size: no
    history halts (`no_store_outside_the_buffer`, Props/C02.lean), so every tracing call that passed its enable test is
    exactly one record or exactly one discard, along every history -/
theorem calls_recorded_or_discarded_always (cfg : Cfg) (d : DST) (L A : Nat) (hcfg : CfgOK A cfg d)
    (hsmall : 8 * L + A ≤ 2 ^ 32) (p : Plat) (hsb : ∀ x ∈ p.setBufs, x.2 = L)
    (hhdr : ∀ args ∈ openArgsOf p.openArgs, hdrEndN cfg d args ≤ 8 * L)
    (ops : List Op) (hops : OpsSmall d L A ops) :
    nCall (runOps cfg d ops (rtInit L p)).log =
      nRec (runOps cfg d ops (rtInit L p)).log + nDisc (runOps cfg d ops (rtInit L p)).log :=
  calls_recorded_or_discarded cfg d ops L p (runOps_init_pinv hcfg hsmall p hsb hhdr ops hops).nh

/-- the same for platforms that install buffers of different sizes, for histories that start by opening a packet and
    never disable tracing (hypotheses of `no_store_outside_the_buffer_any_sizes`, Props/C02.lean) -/
theorem calls_recorded_or_discarded_always_any_sizes (cfg : Cfg) (d : DST) (A Lmax : Nat) (hcfg : CfgOK A cfg d)
    (hsmall : 8 * Lmax + A ≤ 2 ^ 32) (L : Nat) (p : Plat) (hL : GoodBuf cfg d A Lmax p.openArgs L)
    (htg : p.toggles = []) (hsb : ∀ x ∈ p.setBufs, GoodBuf cfg d A Lmax p.openArgs x.2)
    (ops : List Op) (hops : OpsSmall d Lmax A ops) (hen : NeverDisabled ops) :
    nCall (runOps cfg d (.open_ :: ops) (rtInit L p)).log =
      nRec (runOps cfg d (.open_ :: ops) (rtInit L p)).log + nDisc (runOps cfg d (.open_ :: ops) (rtInit L p)).log :=
  calls_recorded_or_discarded cfg d (.open_ :: ops) L p
    (runOps_from_init hcfg hsmall L p hL htg hsb ops hops hen).nh

/-- **records are laid out one after the other, inside the packet** (platforms with one buffer size; hypotheses as in
    `no_store_outside_the_buffer`, Props/C02.lean): along every history, every record that a tracing call serialises
    (`recDone name a b`: bits `[a, b)` of the current packet) begins at or after the end of everything its packet held
    before it — the previous record of that packet, or the packet header and context when it is the first (`hw` of the
    older part of the log) — and ends inside the packet.  So the records of a packet never overlap each other nor the
    packet header/context, and their order in the packet is the order of the calls. -/
theorem records_laid_out_in_order (cfg : Cfg) (d : DST) (L A : Nat) (hcfg : CfgOK A cfg d)
    (hsmall : 8 * L + A ≤ 2 ^ 32) (p : Plat) (hsb : ∀ x ∈ p.setBufs, x.2 = L)
    (hhdr : ∀ args ∈ openArgsOf p.openArgs, hdrEndN cfg d args ≤ 8 * L)
    (ops : List Op) (hops : OpsSmall d L A ops)
    (pre : List Ev) (n : String) (a b : Nat) (rest : List Ev)
    (hlog : (runOps cfg d ops (rtInit L p)).log = pre ++ Ev.recDone n a b :: rest) :
    hw rest ≤ a ∧ a ≤ b ∧ b ≤ 8 * L := by
  have h := (runOps_init_pinv hcfg hsmall p hsb hhdr ops hops).chain
  rw [hlog] at h
  exact ChainOK.record pre n a b rest h

theorem discarded_counter_exact (cfg : Cfg) (d : DST) (ops : List Op) (bytes : Nat) (p : Plat) :
    (runOps cfg d ops (rtInit bytes p)).c.eventsDiscarded =
      nDisc (runOps cfg d ops (rtInit bytes p)).log % 4294967296 :=
  (runOps_inv cfg d ops _ (rtInit_inv d bytes p)).disc

theorem discard_only_if (cfg : Cfg) (d : DST) (erSize emptySize : Nat) (s : St)
    (hn : (reserve cfg d erSize emptySize s).2.halted = false) (h : (reserve cfg d erSize emptySize s).1 = false) :
    emptySize > s.c.room s.c.offContent ∨
    ∃ new, (reserve cfg d erSize emptySize s).2.log = new ++ s.log ∧ Ev.fullAnswer true ∈ new :=
  reserve_reason cfg d erSize emptySize s hn h

/-- one tracing call that passed its enable test: exactly one record or exactly one discard -/
theorem one_call_one_outcome (cfg : Cfg) (d : DST) (e : ERT) (args : Args) (s : St)
    (hn : (traceEnabled cfg d e args s).halted = false) :
    ∃ new, (traceEnabled cfg d e args s).log = new ++ s.log ∧ nRec new + nDisc new = 1 := by
  obtain ⟨new, h1, h2, _⟩ := traceEnabled_out cfg d e args s hn
  exact ⟨new, h1, h2⟩

/-! Non-vacuity: a run with two kept records, one discard by a full back end, none halted -/
def exDst3 : DST :=
  { name := "s", id := 0, clock := none,
    feat := { totalSize := .int false 16 8, contentSize := .int false 16 8, tsBegin := none, tsEnd := none,
              discarded := some (.int false 8 8), seqNum := some (.int false 8 8), ertId := none, erTs := none },
    pcExtra := [], ercc := none,
    erts := [{ name := "e", id := 0, sc := none, p := some ⟨1, [⟨"x", .el (.sc (.int false 8 8))⟩]⟩ }] }
def exCfg3 : Cfg :=
  { bo := .le, fast := true, uuid := [], feat := { magic := none, uuid := false, dstId := none }, dsts := [exDst3] }
def exRun3 : St :=
  runOps exCfg3 exDst3 [.open_, .trace "e" [("p_x", [.num 7])], .trace "e" [("p_x", [.num 8])],
    .trace "e" [("p_x", [.num 9])], .trace "e" [("p_x", [.num 10])]] (rtInit 8 { fullAnswers := [true] })

/-- the three kept records of the example occupy bits [48,56), [56,64) of the first packet and [48,56) of the second -/
example : hw exRun3.log = 56 ∧ (exRun3.log.filterMap fun e => match e with | .recDone _ a b => some (a, b) | _ => none) =
    [(48, 56), (56, 64), (48, 56)] := by decide +kernel

example : exRun3.halted = false ∧ nCall exRun3.log = 4 ∧ nRec exRun3.log = 3 ∧ nDisc exRun3.log = 1 ∧
    exRun3.c.eventsDiscarded = 1 := by decide +kernel

#print axioms calls_recorded_or_discarded
#print axioms calls_recorded_or_discarded_always
#print axioms calls_recorded_or_discarded_always_any_sizes
#print axioms records_laid_out_in_order
#print axioms discarded_counter_exact
#print axioms discard_only_if
#print axioms one_call_one_outcome
end BVM
