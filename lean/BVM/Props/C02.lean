/-
  Props/C02.lean — property C02: the tracer never touches memory outside the current packet buffer.

  Proved here (all configurations, values, buffers, offsets):
    * stores_are_logged_truthfully — each serialisation primitive (bit-array write through the
      bit-field macro or the memcpy fast path; C string write) logs exactly one store `(first byte,
      byte count)` and modifies no byte outside that range; the macro's range is exactly the bytes
      that overlap the field (C08 `bf_touch`);
    * oob_store_is_detected — a store whose range exceeds the buffer raises `oob` and leaves the
      buffer unchanged (the model halts there, as the guard page does on the implementation);
    * record_checked_before_write — after `_reserve_er_space` the tracing function serialises a
      record only if its size *computed at the offset where it will be written* fits the remaining
      packet (`sizeAfterReserve … ≤ room`); otherwise it is counted as discarded.  (This is the check
      whose absence was finding F8, repaired in /repo.)
    * no_undefined_shift — no shift of the bit-field macros has an amount ≥ its operand width.
    * size_pass_is_serialise_advance — for every user root structure (contexts, payload) the `_er_size_*` pass
      and the `_serialize_er_*` pass of the tree `_OpBuilder` builds end at the same `at` (both in `uint32_t`
      arithmetic; no hypothesis on values or positions);
    * record_within_reserved_space — if that size pass says the structure ends inside the buffer and its true
      (unbounded) end does not wrap `uint32_t`, serialising it performs **no store outside the buffer** and ends
      exactly at the computed position (`fits_implies_in_bounds`, `size_pass_exact`; in Proofs/SizeSer.lean:
      `struct_in_bounds`, `size_exact`).
    * **no_store_outside_the_buffer** — the global statement: from `barectf_init`, after any sequence of API calls
      against any platform script whose packet buffers all have one size, no store is outside the buffer (the run has
      not halted), `packet_size` is the buffer size and `at` is inside the packet (position invariant `PInv`,
      Proofs/RtPos.lean; the saved offsets of the written-back fields, Proofs/Saved.lean).  Hypotheses: `CfgOK`
      (executable as `cfgOKb`, evaluated by the check on every real configuration it uses), the property's own
      precondition (buffer ≥ header + context), and the `uint32_t` no-wrap conditions.
    * **every_store_inside_the_buffer** — the same as a statement about the logged stores themselves: every
      `store off n` event of every history has `off + n ≤ L`.
    * **no_store_outside_the_buffer_any_sizes** — the same for platforms that install buffers of *different* sizes, for
      histories that start by opening a packet and never disable tracing (Proofs/RtPosB.lean).
  Not proved, because false on the current tree: buffers of different sizes together with disabled tracing (a closing
  the tracer ignores, then a swap to a smaller buffer, leaves `at` beyond the packet — finding F9) or with tracing calls
  before the first opening (misuse); packets of 512 MiB and more (candidate finding F11).  On the
  implementation the property is decided on every history by the guard page (byte-granular), the C assertion and
  sanitizers.
-/
import BVM.Proofs.CfgOKb
import BVM.Proofs.RtPosB
import BVM.Proofs.Shifts
namespace BVM

theorem stores_are_logged_truthfully (env : SerEnv) (sc : Scalar) (oib : Option Nat) (v : Int) (s : SerSt) :
    ∃ b n, (writeBits env sc oib v s).stores = (b, n) :: s.stores ∧
      ∀ k, (k < b ∨ b + n ≤ k) → getB (writeBits env sc oib v s).buf k = getB s.buf k :=
  writeBits_frame env sc oib v s

theorem string_store_logged_truthfully (bytes : List Nat) (s : SerSt) :
    (writeStr bytes s).stores = (s.at_ / 8, bytes.length + 1) :: s.stores ∧
    ∀ k, (k < s.at_ / 8 ∨ s.at_ / 8 + (bytes.length + 1) ≤ k) → getB (writeStr bytes s).buf k = getB s.buf k :=
  writeStr_frame bytes s

theorem oob_store_is_detected (s : SerSt) (b n : Nat) (nb : Buf) (h : ¬ b + n ≤ s.buf.length) :
    (s.store b n nb).oob = true ∧ (s.store b n nb).buf = s.buf :=
  store_oob s b n nb h

/-- a serialisation pass that raised `oob` halts the run and logs it -/
theorem oob_halts (r : SerSt) (s : St) (h : r.oob = true) :
    (installSer r s).halted = true ∧ Ev.oob ∈ (installSer r s).log := by
  unfold installSer
  simp [h]

theorem record_checked_before_write (cfg : Cfg) (d : DST) (e : ERT) (args : Args) (erAt erSize : Nat) (r : Bool × St)
    (hh : r.2.halted = false) (hok : r.1 = true)
    (hfit : ¬ sizeAfterReserve d e args erAt erSize r.2 ≤ r.2.c.room r.2.c.at_) :
    traceAfterReserve cfg d e args erAt erSize r = (noSpace true r.2).2.setFlag false := by
  unfold traceAfterReserve
  have : sizeAfterReserve d e args erAt erSize r.2 > r.2.c.room r.2.c.at_ := by omega
  simp [hh, hok, this]

theorem no_undefined_shift (isLE : Bool) (W start len : Nat) (hW : 2 ≤ W) :
    ∀ p ∈ bfShifts isLE W start len, p.2 < p.1 :=
  bfShifts_ok isLE W start len hW

/-- `_er_size_*` and `_serialize_er_*` end at the same position, whatever the values and the starting state -/
theorem size_pass_is_serialise_advance (env : SerEnv) (pfx : String) (args : Args) (S : Struct) (hS : RootOK S) (s : SerSt) :
    sizeRoot pfx (buildRoot specNone S) args s.at_ = (serRoot env pfx (buildRoot specNone S) args s).at_ :=
  size_eq_ser env pfx args S hS s

/-- a structure whose true end (`structEndN`: unbounded arithmetic, what a reader computes) is inside the buffer is
    serialised without any store outside the buffer -/
theorem fits_implies_in_bounds (env : SerEnv) (pfx : String) (args : Args) (S : Struct) (hS : RootOK S) (s : SerSt) (L : Nat)
    (hsmall : 8 * L + S.align ≤ 2 ^ 32) (hlen : s.buf.length = L) (h0 : s.oob = false)
    (hfit : structEndN pfx args S s.at_ ≤ 8 * L) :
    (serRoot env pfx (buildRoot specNone S) args s).oob = false ∧
    (serRoot env pfx (buildRoot specNone S) args s).at_ = structEndN pfx args S s.at_ :=
  struct_in_bounds env pfx args S hS s L hsmall hlen h0 hfit

/-- while the true end does not wrap `uint32_t`, the size pass computes it exactly -/
theorem size_pass_exact (pfx : String) (args : Args) (S : Struct) (hS : RootOK S) (a : Nat)
    (h : structEndN pfx args S a + S.align + 8 ≤ 2 ^ 32) :
    sizeRoot pfx (buildRoot specNone S) args a = structEndN pfx args S a := size_exact pfx args S hS a h

/-- **the check the tracer makes is the right one**: if the generated size pass says the structure ends inside the
    buffer (and the true end does not wrap), the generated serialisation stores nothing outside the buffer -/
theorem record_within_reserved_space (env : SerEnv) (pfx : String) (args : Args) (S : Struct) (hS : RootOK S) (s : SerSt)
    (L : Nat) (hsmall : 8 * L + S.align ≤ 2 ^ 32) (hlen : s.buf.length = L) (h0 : s.oob = false)
    (hnw : structEndN pfx args S s.at_ + S.align + 8 ≤ 2 ^ 32)
    (hfit : sizeRoot pfx (buildRoot specNone S) args s.at_ ≤ 8 * L) :
    (serRoot env pfx (buildRoot specNone S) args s).oob = false := by
  rw [size_exact pfx args S hS s.at_ hnw] at hfit
  exact (struct_in_bounds env pfx args S hS s L hsmall hlen h0 hfit).1

/-- every root structure — packet header (magic, UUID, stream id), packet context (with the fields written back at
    closing skipped), event record header, contexts, payload — whose true end is inside the buffer is serialised
    without any store outside the buffer -/
theorem any_root_fits_implies_in_bounds (env : SerEnv) (spec : String → Option WSrc) (pfx : String) (args : Args) (S : Struct)
    (hS : RootOKS spec S) (s : SerSt) (L : Nat) (hsmall : 8 * L + S.align ≤ 2 ^ 32) (hlen : s.buf.length = L)
    (h0 : s.oob = false) (hfit : structEndS spec pfx args S s.at_ ≤ 8 * L) :
    (serRoot env pfx (buildRoot spec S) args s).oob = false ∧
    (serRoot env pfx (buildRoot spec S) args s).at_ = structEndS spec pfx args S s.at_ ∧
    (serRoot env pfx (buildRoot spec S) args s).buf.length = L :=
  root_in_bounds env spec pfx args S hS s L hsmall hlen h0 hfit

/-- `_er_size_<dst>_<ert>` (header + common context + specific context + payload, `uint32_t` arithmetic) is the
    distance `_serialize_er_<dst>_<ert>` advances, for every record type, arguments and position -/
theorem er_size_is_er_serialise_advance (env : SerEnv) (A : Nat) (d : DST) (e : ERT) (hok : RecordOK A d e) (args : Args)
    (s : SerSt) : erSizeAt d e args s.at_ = subU32 (serRecord env d e args s).at_ s.at_ :=
  erSizeAt_eq_ser env A d e hok args s

/-- **a tracing call writes its record inside the packet**: in the tracing function, once `_reserve_er_space` has
    returned 1 and the post-reservation check has found `er_size ≤ packet_size - at` (the check added by the repair of
    finding F8), the record is serialised with no store outside the buffer and `at` stays within the packet — provided
    the packet size is the buffer size, `at` is inside the packet (`PosOK`: the position invariant, assumed here, not
    yet proved along histories) and the record's true end does not wrap `uint32_t` -/
theorem tracing_call_writes_inside_the_packet (cfg : Cfg) (A : Nat) (d : DST) (e : ERT) (hok : RecordOK A d e) (args : Args)
    (erAt : Nat) (r : Bool × St) (hp : PosOK A r.2) (hr : r.1 = true)
    (hnw : recordEndN d e args r.2.c.at_ + A + 8 ≤ 2 ^ 32)
    (hfit : ¬ sizeAfterReserve d e args erAt (erSizeAt d e args erAt) r.2 > r.2.c.room r.2.c.at_) :
    traceAfterReserve cfg d e args erAt (erSizeAt d e args erAt) r = traceWrite cfg d e args r.2 ∧
    (runSer (serRecord (serEnvOf cfg d e.id r.2.c.curLastEventTs r.2.c) d e args) r.2).halted = false ∧
    (runSer (serRecord (serEnvOf cfg d e.id r.2.c.curLastEventTs r.2.c) d e args) r.2).c.at_ ≤ r.2.c.packetSize := by
  rw [sizeAfterReserve_eq] at hfit
  have hw := runSer_record hok (serEnvOf cfg d e.id r.2.c.curLastEventTs r.2.c) args r.2 hp hnw (Nat.le_of_not_gt hfit)
  refine ⟨?_, hw.1.nh, hw.2.2.2⟩
  unfold traceAfterReserve
  simp only [hp.notHalted, hr, sizeAfterReserve_eq, Bool.false_eq_true, if_false, Bool.not_true]
  rw [if_neg hfit]

/-- **no history of the tracer stores outside the packet buffer** (the global statement of C02, for platforms whose
    packet buffers all have the same size `L`): from `barectf_init` on a buffer of `L` bytes, after *any* sequence of API
    calls (open, close, tracing calls, enable/disable, finalisation — in any order, misuse included) against *any*
    platform script (back-end answers, clock, toggles of `is_tracing_enabled` inside any callback, buffer swaps to other
    buffers of `L` bytes), the run has not halted — the model halts exactly on a store outside the buffer
    (`oob_store_is_detected`, `oob_halts`) — the packet size is the buffer size and `at` is inside the packet.
    Hypotheses: `CfgOK` (what the front end guarantees: power-of-two alignments bounded by `A`, distinct member names in
    the packet context; executable as `cfgOKb`, evaluated on real configurations by the check), the property's
    precondition (the buffer holds packet header + context for every argument list the open callback passes) and the
    `uint32_t` no-wrap conditions (buffer below 512 MiB, records whose true size does not wrap). -/
theorem no_store_outside_the_buffer (cfg : Cfg) (d : DST) (L A : Nat) (hcfg : CfgOK A cfg d)
    (hsmall : 8 * L + A ≤ 2 ^ 32) (p : Plat) (hsb : ∀ x ∈ p.setBufs, x.2 = L)
    (hhdr : ∀ args ∈ openArgsOf p.openArgs, hdrEndN cfg d args ≤ 8 * L)
    (ops : List Op) (hops : OpsSmall d L A ops) :
    (runOps cfg d ops (rtInit L p)).halted = false ∧
    (runOps cfg d ops (rtInit L p)).buf.length = L ∧
    (runOps cfg d ops (rtInit L p)).c.packetSize = 8 * L ∧
    (runOps cfg d ops (rtInit L p)).c.at_ ≤ 8 * L := by
  have h := runOps_init_pinv hcfg hsmall p hsb hhdr ops hops
  exact ⟨h.nh, h.len, h.pkt, h.at_⟩

/-- **the literal statement of C02**: every store the tracer makes — every `store off n` event of the log, i.e. every
    byte range any serialisation primitive modified (`stores_are_logged_truthfully`) — lies inside the packet buffer
    (`off + n ≤ L` bytes), along every history; same hypotheses as `no_store_outside_the_buffer`.
    (`installSer` logs the stores of a pass; each was checked against the buffer length when it was made, the buffer keeps
    its length, and no pass raised `oob`: `StoresGood`, Proofs/Ser.lean.) -/
theorem every_store_inside_the_buffer (cfg : Cfg) (d : DST) (L A : Nat) (hcfg : CfgOK A cfg d)
    (hsmall : 8 * L + A ≤ 2 ^ 32) (p : Plat) (hsb : ∀ x ∈ p.setBufs, x.2 = L)
    (hhdr : ∀ args ∈ openArgsOf p.openArgs, hdrEndN cfg d args ≤ 8 * L)
    (ops : List Op) (hops : OpsSmall d L A ops) (off n : Nat) (flag isOpen : Bool)
    (h : Ev.store off n flag isOpen ∈ (runOps cfg d ops (rtInit L p)).log) : off + n ≤ L :=
  (runOps_init_pinv hcfg hsmall p hsb hhdr ops hops).stin _ h

/-- the same with the configuration hypotheses in executable form (what the driver evaluates on real configurations) -/
theorem no_store_outside_the_buffer_exec (cfg : Cfg) (d : DST) (L A : Nat) (hcfg : cfgOKb A cfg d = true)
    (hsmall : 8 * L + A ≤ 2 ^ 32) (p : Plat) (hsb : ∀ x ∈ p.setBufs, x.2 = L)
    (hhdr : hdrFitsb cfg d L p.openArgs = true) (ops : List Op) (hops : OpsSmall d L A ops) :
    (runOps cfg d ops (rtInit L p)).halted = false :=
  (no_store_outside_the_buffer cfg d L A (cfgOKb_sound A cfg d hcfg) hsmall p hsb
    (hdrFitsb_sound cfg d L p.openArgs hhdr) ops hops).1

/-- **the same for platforms that install buffers of different sizes** (`barectf_packet_set_buf` from the close
    callback): every buffer — the initial one and each one installed later — is at most `Lmax` bytes and holds packet
    header + context (`GoodBuf`: the property's precondition); the history starts by opening a packet (what every
    documented platform does in its initialisation) and never disables tracing, and no callback toggles
    `is_tracing_enabled`.  Then no store is outside the current buffer, the packet size is the current buffer's size,
    `at` is inside the packet, an open packet has `off_content ≤ at`, and a closed packet has `at = packet_size` (so the
    next tracing call sees a full packet, asks the back end and opens a new one).
    The two restrictions are where the statement is false on the current tree: a closing ignored because tracing is
    disabled followed by a swap to a smaller buffer (finding F9); a tracing call before any opening followed by a swap. -/
theorem no_store_outside_the_buffer_any_sizes (cfg : Cfg) (d : DST) (A Lmax : Nat) (hcfg : CfgOK A cfg d)
    (hsmall : 8 * Lmax + A ≤ 2 ^ 32) (L : Nat) (p : Plat) (hL : GoodBuf cfg d A Lmax p.openArgs L)
    (htg : p.toggles = []) (hsb : ∀ x ∈ p.setBufs, GoodBuf cfg d A Lmax p.openArgs x.2)
    (ops : List Op) (hops : OpsSmall d Lmax A ops) (hen : NeverDisabled ops) :
    (runOps cfg d (.open_ :: ops) (rtInit L p)).halted = false ∧
    (runOps cfg d (.open_ :: ops) (rtInit L p)).c.packetSize = 8 * (runOps cfg d (.open_ :: ops) (rtInit L p)).buf.length ∧
    (runOps cfg d (.open_ :: ops) (rtInit L p)).c.at_ ≤ (runOps cfg d (.open_ :: ops) (rtInit L p)).c.packetSize ∧
    ((runOps cfg d (.open_ :: ops) (rtInit L p)).c.packetIsOpen = true →
      (runOps cfg d (.open_ :: ops) (rtInit L p)).c.offContent ≤ (runOps cfg d (.open_ :: ops) (rtInit L p)).c.at_) ∧
    ((runOps cfg d (.open_ :: ops) (rtInit L p)).c.packetIsOpen = false →
      (runOps cfg d (.open_ :: ops) (rtInit L p)).c.at_ = (runOps cfg d (.open_ :: ops) (rtInit L p)).c.packetSize) := by
  have h := runOps_from_init hcfg hsmall L p hL htg hsb ops hops hen
  exact ⟨h.nh, h.pkt, by rw [h.pkt]; exact h.at_, h.oc, fun hc => by rw [h.pkt]; exact h.cl rfl hc⟩

/-- the stores of such a history, on the log: each lies inside the buffer that was current when it was made (the run
    never halts, and a pass halts the run when one of its stores exceeds the current buffer), hence inside the first
    `Lmax` bytes -/
theorem every_store_inside_the_buffer_any_sizes (cfg : Cfg) (d : DST) (A Lmax : Nat) (hcfg : CfgOK A cfg d)
    (hsmall : 8 * Lmax + A ≤ 2 ^ 32) (L : Nat) (p : Plat) (hL : GoodBuf cfg d A Lmax p.openArgs L)
    (htg : p.toggles = []) (hsb : ∀ x ∈ p.setBufs, GoodBuf cfg d A Lmax p.openArgs x.2)
    (ops : List Op) (hops : OpsSmall d Lmax A ops) (hen : NeverDisabled ops) (off n : Nat) (flag isOpen : Bool)
    (h : Ev.store off n flag isOpen ∈ (runOps cfg d (.open_ :: ops) (rtInit L p)).log) : off + n ≤ Lmax :=
  (runOps_from_init hcfg hsmall L p hL htg hsb ops hops hen).stin _ h

/-- while a packet is open, the offsets saved for the closing function's write-backs are inside the buffer -/
theorem saved_offsets_inside_the_buffer (cfg : Cfg) (d : DST) (L A : Nat) (hcfg : CfgOK A cfg d)
    (hsmall : 8 * L + A ≤ 2 ^ 32) (p : Plat) (hsb : ∀ x ∈ p.setBufs, x.2 = L)
    (hhdr : ∀ args ∈ openArgsOf p.openArgs, hdrEndN cfg d args ≤ 8 * L)
    (ops : List Op) (hops : OpsSmall d L A ops)
    (ho : (runOps cfg d ops (rtInit L p)).c.packetIsOpen = true) :
    SavedOK d.pcOp.members (runOps cfg d ops (rtInit L p)).c.saved (8 * L) :=
  (runOps_init_pinv hcfg hsmall p hsb hhdr ops hops).sv ho

/-! Non-vacuity -/
def c02S : Struct := ⟨1, [⟨"n", .el (.sc (.int false 8 8))⟩, ⟨"a", .darr "n" (.sc (.int false 5 8))⟩,
                           ⟨"t", .el (.sc (.int true 4 1))⟩, ⟨"s", .el (.sc .str)⟩]⟩
def c02Args : Args := [("p_n", [.num 2]), ("p_a", [.num 5, .num 33]), ("p_t", [.num (-3)]), ("p_s", [.str [104, 105]])]
def c02St (n : Nat) : SerSt := ⟨List.replicate n 255, 3, [], [], false, []⟩
example : RootOK c02S := ⟨⟨3, by decide⟩, by
  intro m hm
  simp only [c02S, List.mem_cons, List.mem_nil_iff, or_false] at hm
  rcases hm with rfl | rfl | rfl | rfl
  · exact ⟨by simp, ⟨3, rfl⟩⟩
  · exact ⟨by simp, ⟨3, rfl⟩⟩
  · exact ⟨by simp, ⟨0, rfl⟩⟩
  · exact ⟨by simp, ⟨3, rfl⟩⟩⟩
/-- the record ends at bit 64 when written from bit 3: an 8-byte buffer is enough, a 7-byte one is not — and the
    size pass says so -/
example : structEndN "p" c02Args c02S 3 = 64 ∧ sizeRoot "p" (buildRoot specNone c02S) c02Args 3 = 64 := by decide +kernel
example : (serRoot ⟨.le, true, [], 0, 0, 0, 0, 0⟩ "p" (buildRoot specNone c02S) c02Args (c02St 8)).oob = false := by decide +kernel
example : (serRoot ⟨.le, true, [], 0, 0, 0, 0, 0⟩ "p" (buildRoot specNone c02S) c02Args (c02St 7)).oob = true := by decide +kernel

example : (({ buf := [0, 0], at_ := 8, saved := [], stores := [], oob := false, leaves := [] } : SerSt).store 1 2 [0, 1, 2]).oob = true := by
  decide


/-- a configuration that meets `CfgOK`: 16-bit sizes, discarded counter and sequence number, a payload with a dynamic
    array of 5-bit integers and a string; header + context = 48 bits -/
def c02Dst : DST :=
  { name := "s", id := 0, clock := none,
    feat := { totalSize := .int false 16 8, contentSize := .int false 16 8, tsBegin := none, tsEnd := none,
              discarded := some (.int false 8 8), seqNum := some (.int false 8 8), ertId := none, erTs := none },
    pcExtra := [], ercc := none,
    erts := [{ name := "e", id := 0, sc := none, p := some c02S }] }
def c02Cfg : Cfg :=
  { bo := .le, fast := true, uuid := [], feat := { magic := none, uuid := false, dstId := none }, dsts := [c02Dst] }
def c02Ops : List Op := [.open_, .trace "e" c02Args, .enable false, .close, .enable true, .trace "e" c02Args,
  .trace "e" c02Args, .fin]
example : cfgOKb 8 c02Cfg c02Dst = true ∧ hdrFitsb c02Cfg c02Dst 16 [] = true ∧ 8 * 16 + 8 ≤ 2 ^ 32 := by decide +kernel
example : OpsSmall c02Dst 16 8 c02Ops := by
  intro en args hm e he hn a ha
  have hargs : args = c02Args := by
    simp only [c02Ops, List.mem_cons, Op.trace.injEq, List.mem_nil_iff, or_false, reduceCtorEq, false_or] at hm
    rcases hm with h | h | h <;> exact h.2
  have hee : e = { name := "e", id := 0, sc := none, p := some c02S } := by
    simpa [c02Dst] using he
  subst hargs hee
  revert a
  decide +kernel
example : (runOps c02Cfg c02Dst c02Ops (rtInit 16 { fullAnswers := [false, true] })).halted = false := by decide +kernel
/-- two buffer sizes (16 bytes, then 12 after the first closing), back end full once: the hypotheses are met -/
example : GoodBuf c02Cfg c02Dst 8 16 [] 16 ∧ GoodBuf c02Cfg c02Dst 8 16 [] 12 :=
  ⟨⟨by decide, by intro a ha; simp [openArgsOf] at ha; subst ha; decide +kernel⟩,
   ⟨by decide, by intro a ha; simp [openArgsOf] at ha; subst ha; decide +kernel⟩⟩
example : (runOps c02Cfg c02Dst (.open_ :: [.trace "e" c02Args, .close, .trace "e" c02Args, .trace "e" c02Args, .fin])
    (rtInit 16 { fullAnswers := [false, true], setBufs := [(0, 12)] })).halted = false := by decide +kernel
/-- the stores of the example run: 18 of them, the highest ends at byte 13 of the 16-byte buffer -/
example : ((runOps c02Cfg c02Dst c02Ops (rtInit 16 { fullAnswers := [false, true] })).log.filterMap
    fun e => match e with | .store o n _ _ => some (o + n) | _ => none) =
    [5, 4, 13, 10, 9, 8, 7, 6, 2, 5, 4, 13, 10, 9, 8, 7, 6, 2] := by decide +kernel

#print axioms stores_are_logged_truthfully
#print axioms string_store_logged_truthfully
#print axioms oob_store_is_detected
#print axioms oob_halts
#print axioms record_checked_before_write
#print axioms no_undefined_shift
#print axioms size_pass_is_serialise_advance
#print axioms fits_implies_in_bounds
#print axioms size_pass_exact
#print axioms record_within_reserved_space
#print axioms any_root_fits_implies_in_bounds
#print axioms er_size_is_er_serialise_advance
#print axioms tracing_call_writes_inside_the_packet
#print axioms no_store_outside_the_buffer
#print axioms every_store_inside_the_buffer
#print axioms no_store_outside_the_buffer_exec
#print axioms no_store_outside_the_buffer_any_sizes
#print axioms every_store_inside_the_buffer_any_sizes
#print axioms saved_offsets_inside_the_buffer
end BVM
