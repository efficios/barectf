/-
  Props/C04.lean — property C04: every packet given to the back end is a well-formed CTF packet.

  Proved here, over the runtime model (all configurations, histories, platform scripts, buffer
  sizes): at every packet closing (`closed contentSize seqNum discarded` ghost event, logged by
  `closeFinish` with the values that the write-backs and the opening just serialised)
    * the discarded-records snapshot written back is the number of records discarded before that
      closing, reduced mod 2^32 (`closed_snapshot_exact`);
    * the context's sequence number at that closing — the value the packet's `packet_seq_num` field
      received when the packet was opened — is the number of packets closed before it
      (`closed_sequence_exact`), or 0 when the feature is disabled;
    * the content size saved is the write position at the closing (`close_saves_position`).
    * closing_saves_the_end_of_the_last_record — (one buffer size) from any reachable state with an open packet, the
      closing saves as content size exactly the end of the last record (or of the packet context), at most the packet
      size = buffer size, and parks `at` at the end of the closed packet (position invariant, Proofs/RtPos.lean).
  `delivered_packet_wellformed_partial`: NOT proved as a statement about the delivered *bytes*
  (magic/UUID/stream id/size fields read back through the metadata at the reader's offsets): that
  needs the bit-level frame lemmas of Bits lifted through the packet-context serialisation, and the
  hypotheses PlatformCallsWhileEnabled (finding F9) and SizeStable (finding F8).  The byte-level
  statement is checked on the implementation by the decoding oracle of the check (field by field,
  every delivered packet).
-/
import BVM.Proofs.RtCount
import BVM.Proofs.RtPos
namespace BVM

/-- the list of `closed` events of a log, each with the log as it was before the event -/
def closings : List Ev → List (Nat × Nat × Nat × List Ev)
  | [] => []
  | .closed cs sn dc :: rest => (cs, sn, dc, rest) :: closings rest
  | _ :: rest => closings rest

theorem closedOK_closings (d : DST) (log : List Ev) (h : closedOK d log) :
    ∀ x ∈ closings log, x.2.2.1 = nDisc x.2.2.2 % 4294967296 ∧ x.2.1 = seqOf d x.2.2.2 := by
  induction log with
  | nil => intro x hx; simp [closings] at hx
  | cons e es ih =>
    intro x hx
    cases e <;> simp only [closings, closedOK] at hx h <;> try exact ih h x hx
    rename_i cs sn dc
    rcases List.mem_cons.mp hx with hx | hx
    · subst hx; exact ⟨h.1, h.2.1⟩
    · exact ih h.2.2 x hx

theorem closed_snapshot_exact (cfg : Cfg) (d : DST) (ops : List Op) (bytes : Nat) (p : Plat) :
    ∀ x ∈ closings (runOps cfg d ops (rtInit bytes p)).log,
      x.2.2.1 = nDisc x.2.2.2 % 4294967296 := fun x hx =>
  (closedOK_closings d _ (runOps_inv cfg d ops _ (rtInit_inv d bytes p)).closed x hx).1

theorem closed_sequence_exact (cfg : Cfg) (d : DST) (ops : List Op) (bytes : Nat) (p : Plat) :
    ∀ x ∈ closings (runOps cfg d ops (rtInit bytes p)).log,
      x.2.1 = (if d.feat.seqNum.isSome then nClosed x.2.2.2 % 4294967296 else 0) := fun x hx =>
  (closedOK_closings d _ (runOps_inv cfg d ops _ (rtInit_inv d bytes p)).closed x hx).2

/-- the sequence-number accessor after any history: number of packets closed (feature enabled) -/
theorem sequence_number_exact (cfg : Cfg) (d : DST) (ops : List Op) (bytes : Nat) (p : Plat) :
    (runOps cfg d ops (rtInit bytes p)).c.sequenceNumber =
      (if d.feat.seqNum.isSome then nClosed (runOps cfg d ops (rtInit bytes p)).log % 4294967296 else 0) :=
  (runOps_inv cfg d ops _ (rtInit_inv d bytes p)).seq

/-- **what a closing writes into the size fields** (platforms with one buffer size; hypotheses as in
    `no_store_outside_the_buffer`, Props/C02.lean): in any state a history can reach with a packet open, the closing
    function saves as content size exactly the end of the packet's last record — or the end of the packet header and
    context when the packet holds no record (`hw` of the log) — which is at most the packet size; the packet size is the
    buffer size; and it leaves the packet closed with the position parked at the end of the packet.  (The value saved is
    the one the write-back puts into the `content_size` field; the `packet_size` field received `8·L` at the opening.) -/
theorem closing_saves_the_end_of_the_last_record (cfg : Cfg) (d : DST) (L A : Nat) (hcfg : CfgOK A cfg d)
    (hsmall : 8 * L + A ≤ 2 ^ 32) (p : Plat) (hsb : ∀ x ∈ p.setBufs, x.2 = L)
    (hhdr : ∀ args ∈ openArgsOf p.openArgs, hdrEndN cfg d args ≤ 8 * L)
    (ops : List Op) (hops : OpsSmall d L A ops) (ts : Nat) (saved : Bool)
    (ho : (runOps cfg d ops (rtInit L p)).c.packetIsOpen = true) :
    (closeWrite cfg d ts saved (runOps cfg d ops (rtInit L p))).c.contentSize = hw (runOps cfg d ops (rtInit L p)).log ∧
    hw (runOps cfg d ops (rtInit L p)).log ≤ 8 * L ∧
    (closeWrite cfg d ts saved (runOps cfg d ops (rtInit L p))).c.packetSize = 8 * L ∧
    (closeWrite cfg d ts saved (runOps cfg d ops (rtInit L p))).c.at_ = 8 * L ∧
    (closeWrite cfg d ts saved (runOps cfg d ops (rtInit L p))).c.packetIsOpen = false := by
  have hi := runOps_init_pinv hcfg hsmall p hsb hhdr ops hops
  obtain ⟨s₃, sn, h, heq⟩ := closeWrite_eq hcfg ts saved _ hi.nh (by rw [hi.len]; exact hsmall)
    (by rw [hi.len]; exact hi.sv ho)
  rw [heq]
  exact ⟨h.csz.trans (hi.hweq ho).symm, Nat.le_trans hi.hwle hi.at_, h.pkt.trans hi.pkt, h.pkt.trans hi.pkt, rfl⟩

/-- the same along the log of every history: each closing that took effect (`closed cs …` ghost event) saved as content
    size `cs` exactly the end of the last record of its packet — or of the packet header and context when the packet held
    no record (`hw` of the older part of the log) — and `cs` is at most the packet size -/
theorem every_closing_saves_the_end_of_the_last_record (cfg : Cfg) (d : DST) (L A : Nat) (hcfg : CfgOK A cfg d)
    (hsmall : 8 * L + A ≤ 2 ^ 32) (p : Plat) (hsb : ∀ x ∈ p.setBufs, x.2 = L)
    (hhdr : ∀ args ∈ openArgsOf p.openArgs, hdrEndN cfg d args ≤ 8 * L)
    (ops : List Op) (hops : OpsSmall d L A ops)
    (pre : List Ev) (cs sn dc : Nat) (rest : List Ev)
    (hlog : (runOps cfg d ops (rtInit L p)).log = pre ++ Ev.closed cs sn dc :: rest) :
    cs = hw rest ∧ cs ≤ 8 * L := by
  have h := (runOps_init_pinv hcfg hsmall p hsb hhdr ops hops).chain
  rw [hlog] at h
  exact ChainOK.closing pre cs sn dc rest h

#print axioms closedOK_closings
#print axioms closed_snapshot_exact
#print axioms closed_sequence_exact
#print axioms sequence_number_exact
#print axioms closing_saves_the_end_of_the_last_record
#print axioms every_closing_saves_the_end_of_the_last_record
end BVM
