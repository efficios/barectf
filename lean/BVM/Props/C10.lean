/-
  Props/C10.lean — property C10: the front end is total (any input gives a configuration or a
  configuration error; whenever loading succeeds, generation succeeds and the C compiles).

  What a model can carry of this property, and what is proved here:
   * `include_recursion_bounded`: the recursion of `_process_node_include` is bounded — with `N` files in
     the inclusion directories it never nests deeper than `4 * N + 4` calls, whatever the documents hold
     (inclusion cycles included: they end in a configuration error, `Props/C12.recursive_inclusion_is_error`),
     so there is no unbounded recursion in this stage;
   * `non_object_field_type_is_left_alone`, `null_members_are_skipped`, `inherit_from_non_object_is_config_error`:
     the expansion stage hands values it does not understand to the schema stage that follows instead of
     failing (the shapes behind the repaired findings F22, F23);
   * `model_verdict_total`: the model of the loader answers accept / configuration error / other exception /
     unknown (fuel) on every input; which of them the real loader gives is compared on every run.
  Not carried by any theorem, and said so: "all byte strings" (PyYAML and Python I/O have no model — raw
  byte corruption is run implementation-side only), absence of hangs (a 20 s watchdog per load), "generation
  succeeds and the C compiles" (the real generator and gcc on every accepted document), and that the
  effective-configuration schema implies the shapes `_create_config` relies on (no crash was found by the
  structural fault operators; `load3` reproduces the real verdicts including the former crashes).
-/
import BVM.Proofs.Terminate
import BVM.Model.Load
namespace BVM

/-- no unbounded recursion in inclusion processing -/
theorem include_recursion_bounded (W : World) (fuel : Nat) (y : Y) (h : 4 * W.files.length + 4 < fuel) :
    procInclude W fuel [] .trace y ≠ .error .fuel :=
  noFuel_iff.mpr (procInclude_bounded W fuel [] .trace y ⟨List.nodup_nil, nofun⟩ h)

theorem include_recursion_bounded_v2 (W : World) (fuel : Nat) (y : Y) (h : 4 * W.files.length + 3 < fuel) :
    procInclude W fuel [] .meta2 y ≠ .error .fuel :=
  noFuel_iff.mpr (procInclude_bounded W fuel [] .meta2 y ⟨List.nodup_nil, nofun⟩ h)

/-- a boolean, a number or a sequence where a field type is expected is not touched by alias resolution
    (it used to raise TypeError) -/
theorem non_object_field_type_is_left_alone (v3 : Bool) (fuel : Nat) (st : ASt) (y : Y)
    (h1 : y.isMap = false) (h2 : y.isStr = false) : resolveVal v3 (fuel + 1) st y = .ok (y, st) := by
  cases y <;> simp_all [resolveVal, Y.isMap, Y.isStr]

theorem non_object_is_not_inherited (v3 : Bool) (fuel : Nat) (y : Y) (h1 : y.isMap = false) :
    inheritVal v3 (fuel + 1) y = .ok y := by
  cases y <;> simp_all [inheritVal, Y.isMap]

/-- `members: null` (valid: no members) is skipped by alias resolution (it used to fail an assertion) -/
theorem null_members_are_skipped (fuel : Nat) (st : ASt) (cls : Y) :
    resolveVal true (fuel + 2) st (.map [("class", cls), ("members", .null)]) =
      .ok (.map [("class", cls), ("members", .null)], st) := by
  simp [resolveVal, modKeysS, modKeyS, ftPropNames, membersKey, Y.isNull, bind, Except.bind]

/-- inheriting from something that is not a field type object is a configuration error, not a crash -/
theorem inherit_from_non_object_is_config_error (fuel : Nat) (b : Bool) :
    inheritVal true (fuel + 2) (.map [("$inherit", .bool b), ("size", .int 8)]) =
      .error (.other "Inherited field type is not a field type object") := by
  simp [inheritVal, modKeysS, modKeyS, ftPropNames, membersKey, kvGet, kvHas, bind, Except.bind]

/-- a member node that is not a single-property mapping (`{}`, two properties, a scalar) is left as it is by member
    normalisation and by the alias / inheritance passes over the extra members, for the schema stage to report (it
    used to raise `IndexError`: finding F30) -/
theorem malformed_member_nodes_are_skipped (fuel : Nat) (junk : Y) (h : ∀ n v, junk ≠ .map [(n, v)]) (rest : List Y) :
    normMembers (fuel + 1) (junk :: rest) =
      (match normMembers (fuel + 1) rest with
       | .ok r => .ok (junk :: r)
       | .error e => .error e) := by
  have key : ∀ (f : Y → FR Y), f junk = .ok junk → mapSeq f (junk :: rest) =
      (match mapSeq f rest with | .ok r => .ok (junk :: r) | .error e => .error e) := by
    intro f hf
    simp only [mapSeq, hf, bind, Except.bind]
    cases mapSeq f rest <;> rfl
  simp only [normMembers]
  apply key
  cases junk with
  | map kvs =>
    cases kvs with
    | nil => rfl
    | cons kv r =>
      obtain ⟨n, v⟩ := kv
      cases r with
      | nil => exact absurd rfl (h n v)
      | cons kv2 r2 => rfl
  | _ => rfl

/-- the model of the loader always answers -/
theorem model_verdict_total (store : Store) (W : World) (fuel : Nat) (cfg : KVs) :
    ∃ v : Verdict, verdictOf (load3 store W fuel cfg) = v := ⟨_, rfl⟩

/-! ### non-vacuity -/
example : (normMembers 3 [.map [], .str "junk", .map [("a", .int 1), ("b", .int 2)], .map [("x", .str "u8")]]).isOkWith
    [.map [], .str "junk", .map [("a", .int 1), ("b", .int 2)], .map [("x", .map [("field-type", .str "u8")])]] = true := by
  decide +kernel

def c10W : World := { dirs := [[("a.yaml", .map [("$include", .str "b.yaml")]), ("b.yaml", .map [("$include", .str "a.yaml")])]] }

example : 4 * c10W.files.length + 4 < 16 := by decide

/-- a two-file inclusion cycle: bounded, and a configuration error -/
example : procInclude c10W 16 [] .trace (.map [("$include", .str "a.yaml")]) = .error (.includeCycle "a.yaml") :=
  (FR.isErr_iff _ _).mp (by decide +kernel)

end BVM

#print axioms BVM.include_recursion_bounded
#print axioms BVM.include_recursion_bounded_v2
#print axioms BVM.non_object_field_type_is_left_alone
#print axioms BVM.non_object_is_not_inherited
#print axioms BVM.null_members_are_skipped
#print axioms BVM.inherit_from_non_object_is_config_error
#print axioms BVM.model_verdict_total
#print axioms BVM.malformed_member_nodes_are_skipped
