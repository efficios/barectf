/-
  Props/C06.lean — property C06: packet life cycle and truthful accessors.

  Proved here over the runtime model (all configurations, histories, platform scripts, buffers):
    * is_open_follows_open_close — the is-open accessor is true exactly when the newest
      opening/closing that *took effect* (ghost events `opened`/`closed`) is an opening;
    * discarded_accessor_exact / sequence_accessor_exact — the two counters equal the numbers of
      discarded records and closed packets (mod 2^32; the sequence number stays 0 when the feature is
      off, as api.adoc says);
    * open_on_open_is_noop / close_on_closed_is_noop — opening an open packet or closing a closed one
      changes nothing but the in-section flag round trip (buffer, position, counters, log of stores).
    * open_packet_position / is_empty_iff_at_content_start — for platforms whose packet buffers all have
      one size: after any history the packet size is the buffer size, `at` is inside the packet, while a
      packet is open `off_content ≤ at` (is-empty ⇔ nothing written after the packet context), and the
      saved content size is at most the packet size (position invariant `PInv`, Proofs/RtPos.lean).
  `protocol_invariants_partial` / `finalise_flushes_partial` (DESIGN.md): the clauses "open callback
  only when no packet is open and after a not-full answer", "close callback only on an open packet"
  and the finalisation idiom additionally need "closed ⇒ at = packetSize", which is false in the
  corners recorded as findings (F9: platform calls ignored while tracing is disabled; tracing calls
  before the first opening).  They are checked on the implementation by the oracle of the check and
  compared with the model event by event.
-/
import BVM.Proofs.RtCount
import BVM.Proofs.RtPosB
namespace BVM

theorem is_open_follows_open_close (cfg : Cfg) (d : DST) (ops : List Op) (bytes : Nat) (p : Plat) :
    (runOps cfg d ops (rtInit bytes p)).c.packetIsOpen = lastOpen (runOps cfg d ops (rtInit bytes p)).log :=
  (runOps_inv cfg d ops _ (rtInit_inv d bytes p)).isOpen

theorem discarded_accessor_exact (cfg : Cfg) (d : DST) (ops : List Op) (bytes : Nat) (p : Plat) :
    (runOps cfg d ops (rtInit bytes p)).c.eventsDiscarded =
      nDisc (runOps cfg d ops (rtInit bytes p)).log % 4294967296 :=
  (runOps_inv cfg d ops _ (rtInit_inv d bytes p)).disc

theorem sequence_accessor_exact (cfg : Cfg) (d : DST) (ops : List Op) (bytes : Nat) (p : Plat) :
    (runOps cfg d ops (rtInit bytes p)).c.sequenceNumber =
      (if d.feat.seqNum.isSome then nClosed (runOps cfg d ops (rtInit bytes p)).log % 4294967296 else 0) :=
  (runOps_inv cfg d ops _ (rtInit_inv d bytes p)).seq

/-- opening an open packet is a no-op (after the preamble's clock sample): nothing changes -/
theorem open_on_open_is_noop (cfg : Cfg) (d : DST) (args : Args) (ts : Nat) (s : St)
    (ho : s.c.packetIsOpen = true) (he : s.c.isTracingEnabled = true ∨ s.c.inTracingSection = true) :
    openGuarded cfg d args ts s = s := by
  unfold openGuarded
  have hg : (!s.c.isTracingEnabled && !s.c.inTracingSection) = false := by
    rcases he with h | h <;> simp [h]
  simp only [hg, Bool.false_eq_true, if_false, St.setFlag_c_packetIsOpen, ho, if_true]
  cases s; rfl

/-- closing a closed packet is a no-op (after the preamble's clock sample): nothing changes -/
theorem close_on_closed_is_noop (cfg : Cfg) (d : DST) (ts : Nat) (s : St)
    (ho : s.c.packetIsOpen = false) (he : s.c.isTracingEnabled = true ∨ s.c.inTracingSection = true) :
    closeGuarded cfg d ts s = s := by
  unfold closeGuarded
  have hg : (!s.c.isTracingEnabled && !s.c.inTracingSection) = false := by
    rcases he with h | h <;> simp [h]
  simp only [hg, Bool.false_eq_true, if_false, St.setFlag_c_packetIsOpen, ho, Bool.not_false, if_true]
  cases s; rfl

/-- **position clauses of the life cycle** (platforms whose packet buffers all have one size `L`; hypotheses as in
    `no_store_outside_the_buffer`, Props/C02.lean): after any history — any order of calls, any toggles inside
    callbacks, any back-end answers — the packet size is the buffer size, the write position is inside the packet, while
    a packet is open the position is at or after the beginning of the packet content (so `is_empty` ⇔ `at = off_content`),
    and the content size saved by the last closing is at most the packet size -/
theorem open_packet_position (cfg : Cfg) (d : DST) (L A : Nat) (hcfg : CfgOK A cfg d)
    (hsmall : 8 * L + A ≤ 2 ^ 32) (p : Plat) (hsb : ∀ x ∈ p.setBufs, x.2 = L)
    (hhdr : ∀ args ∈ openArgsOf p.openArgs, hdrEndN cfg d args ≤ 8 * L)
    (ops : List Op) (hops : OpsSmall d L A ops) :
    (runOps cfg d ops (rtInit L p)).c.packetSize = 8 * L ∧
    (runOps cfg d ops (rtInit L p)).c.at_ ≤ (runOps cfg d ops (rtInit L p)).c.packetSize ∧
    ((runOps cfg d ops (rtInit L p)).c.packetIsOpen = true →
      (runOps cfg d ops (rtInit L p)).c.offContent ≤ (runOps cfg d ops (rtInit L p)).c.at_) ∧
    (runOps cfg d ops (rtInit L p)).c.contentSize ≤ (runOps cfg d ops (rtInit L p)).c.packetSize := by
  have h := runOps_init_pinv hcfg hsmall p hsb hhdr ops hops
  exact ⟨h.pkt, by rw [h.pkt]; exact h.at_, h.oc, by rw [h.pkt]; exact h.cz⟩

/-- while a packet is open, the is-empty accessor says exactly "nothing was written after the packet context" -/
theorem is_empty_iff_at_content_start (cfg : Cfg) (d : DST) (L A : Nat) (hcfg : CfgOK A cfg d)
    (hsmall : 8 * L + A ≤ 2 ^ 32) (p : Plat) (hsb : ∀ x ∈ p.setBufs, x.2 = L)
    (hhdr : ∀ args ∈ openArgsOf p.openArgs, hdrEndN cfg d args ≤ 8 * L)
    (ops : List Op) (hops : OpsSmall d L A ops)
    (ho : (runOps cfg d ops (rtInit L p)).c.packetIsOpen = true) :
    (runOps cfg d ops (rtInit L p)).c.isEmpty = true ↔
      (runOps cfg d ops (rtInit L p)).c.at_ = (runOps cfg d ops (rtInit L p)).c.offContent := by
  have h := (open_packet_position cfg d L A hcfg hsmall p hsb hhdr ops hops).2.2.1 ho
  simp only [Ctx.isEmpty, decide_eq_true_eq]
  omega

/-- the same clauses for platforms that install buffers of different sizes (`barectf_packet_set_buf`), for histories
    that start by opening a packet and never disable tracing (hypotheses of `no_store_outside_the_buffer_any_sizes`,
    Props/C02.lean) — and there also the converse clause: **a closed packet is parked at its end** (`at = packet_size`),
    so the is-full accessor is true and the next tracing call asks the back end and has a new packet opened -/
theorem closed_packet_is_parked_at_the_end (cfg : Cfg) (d : DST) (A Lmax : Nat) (hcfg : CfgOK A cfg d)
    (hsmall : 8 * Lmax + A ≤ 2 ^ 32) (L : Nat) (p : Plat) (hL : GoodBuf cfg d A Lmax p.openArgs L)
    (htg : p.toggles = []) (hsb : ∀ x ∈ p.setBufs, GoodBuf cfg d A Lmax p.openArgs x.2)
    (ops : List Op) (hops : OpsSmall d Lmax A ops) (hen : NeverDisabled ops)
    (hc : (runOps cfg d (.open_ :: ops) (rtInit L p)).c.packetIsOpen = false) :
    (runOps cfg d (.open_ :: ops) (rtInit L p)).c.isFull = true := by
  have h := runOps_from_init hcfg hsmall L p hL htg hsb ops hops hen
  have h1 := h.cl rfl hc
  simp only [Ctx.isFull, beq_iff_eq]
  rw [h1, h.pkt]

#print axioms is_open_follows_open_close
#print axioms discarded_accessor_exact
#print axioms sequence_accessor_exact
#print axioms open_on_open_is_noop
#print axioms close_on_closed_is_noop
#print axioms open_packet_position
#print axioms is_empty_iff_at_content_start
#print axioms closed_packet_is_parked_at_the_end
end BVM
