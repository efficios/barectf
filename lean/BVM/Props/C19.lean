/-
  Props/C19.lean — property C19: generated names carry the configured prefixes; tracers with
  different prefixes coexist.

  `symbolsOf` / `fileNamesOf` / `shorthandMacros` / `cliPrefixes` (Model/Api.lean) transcribe
  common.j2, barectf.h.j2, barectf.c.j2, codegen.py and the CLI's `--prefix` handling; the check
  compares them on every run with `nm -g --defined-only` of the compiled object, with the file names
  the CLI writes, and links two tracers into one program.
  Reading recorded in the evidence: "different prefixes" = neither is a prefix of the other
  (`prefix_overlap_possible` shows that merely unequal prefixes do not suffice).
-/
import BVM.Model.Api
namespace BVM

theorem symbols_prefixed (o : GenOpts) (c : Cfg) : ∀ s ∈ symbolsOf o c, ∃ r, s = o.identPrefix ++ r := by
  intro s hs
  unfold symbolsOf at hs
  rcases List.mem_append.mp hs with h | h
  · obtain ⟨n, _, rfl⟩ := List.mem_map.mp h
    exact ⟨n, rfl⟩
  · obtain ⟨l, hl, hm⟩ := List.mem_flatten.mp h
    obtain ⟨d, _, rfl⟩ := List.mem_map.mp hl
    unfold dstSymbols at hm
    rcases List.mem_append.mp hm with h1 | h1
    · simp at h1
      rcases h1 with rfl | rfl
      · exact ⟨d.name ++ "_open_packet", by simp [String.append_assoc]⟩
      · exact ⟨d.name ++ "_close_packet", by simp [String.append_assoc]⟩
    · obtain ⟨e, _, rfl⟩ := List.mem_map.mp h1
      exact ⟨d.name ++ "_trace_" ++ e.name, by simp [String.append_assoc]⟩

theorem files_prefixed (o : GenOpts) : ∀ f ∈ fileNamesOf o, f = "metadata" ∨ ∃ r, f = o.filePrefix ++ r := by
  intro f hf
  unfold fileNamesOf at hf
  simp at hf
  rcases hf with rfl | rfl | rfl | rfl
  · exact Or.inr ⟨".h", rfl⟩
  · exact Or.inr ⟨"-bitfield.h", rfl⟩
  · exact Or.inr ⟨".c", rfl⟩
  · exact Or.inl rfl

/-- CLI `--prefix p`: identifier prefix `p`, file name prefix `p` without its trailing underscores -/
theorem cli_prefix_override (p : String) : (cliPrefixes p).1 = p ∧ (cliPrefixes p).2 = rstripUnderscore p := ⟨rfl, rfl⟩

/-- two strings with a common extension: one of the two prefixes is a prefix of the other -/
theorem prefix_of_common (p₁ p₂ r₁ r₂ : String) (h : p₁ ++ r₁ = p₂ ++ r₂) :
    (∃ t, p₂ = p₁ ++ t) ∨ (∃ t, p₁ = p₂ ++ t) := by
  have hl : p₁.toList ++ r₁.toList = p₂.toList ++ r₂.toList := by
    have := congrArg String.toList h
    simpa [String.toList_append] using this
  rcases List.append_eq_append_iff.mp hl with ⟨a, h1, _⟩ | ⟨a, h1, _⟩
  · exact Or.inl ⟨String.ofList a, by apply String.ext; simp [String.toList_append, h1]⟩
  · exact Or.inr ⟨String.ofList a, by apply String.ext; simp [String.toList_append, h1]⟩

/-- tracers whose identifier prefixes are prefix-free define disjoint sets of external symbols -/
theorem prefixfree_disjoint (o₁ o₂ : GenOpts) (c₁ c₂ : Cfg)
    (h₁ : ¬ ∃ t, o₂.identPrefix = o₁.identPrefix ++ t) (h₂ : ¬ ∃ t, o₁.identPrefix = o₂.identPrefix ++ t) :
    ∀ s, s ∈ symbolsOf o₁ c₁ → s ∉ symbolsOf o₂ c₂ := by
  intro s hs hs'
  obtain ⟨r₁, e₁⟩ := symbols_prefixed o₁ c₁ s hs
  obtain ⟨r₂, e₂⟩ := symbols_prefixed o₂ c₂ s hs'
  rcases prefix_of_common _ _ r₁ r₂ (e₁.symm.trans e₂) with h | h
  · exact h₁ h
  · exact h₂ h

/-- each `trace_<event>` shorthand macro of the default data stream type expands to that stream's
    tracing function -/
theorem shorthand_resolves (o : GenOpts) (c : Cfg) (dn : String) (d : DST)
    (hd : o.defaultDst = some dn) (hf : c.dsts.find? (fun x => x.name == dn) = some d) :
    shorthandMacros o c = d.erts.map fun e =>
      (o.identPrefix ++ "trace_" ++ e.name, o.identPrefix ++ d.name ++ "_trace_" ++ e.name) := by
  unfold shorthandMacros
  simp [hd, hf]

/-- the expansion of a shorthand macro is an external symbol of the tracer -/
theorem shorthand_target_defined (o : GenOpts) (c : Cfg) (dn : String) (d : DST)
    (hd : o.defaultDst = some dn) (hf : c.dsts.find? (fun x => x.name == dn) = some d) :
    ∀ m ∈ shorthandMacros o c, m.2 ∈ symbolsOf o c := by
  intro m hm
  rw [shorthand_resolves o c dn d hd hf] at hm
  obtain ⟨e, he, rfl⟩ := List.mem_map.mp hm
  exact List.mem_append_right _ (List.mem_flatten_of_mem
    (List.mem_map_of_mem (f := dstSymbols o.identPrefix) (List.mem_of_find?_eq_some hf))
    (List.mem_append_right _ (List.mem_map_of_mem he)))

/-! "different" is not enough: `a_` and `a_b_` with suitably named stream types collide -/
def oA : GenOpts := { identPrefix := "a_" }
def oB : GenOpts := { identPrefix := "a_b_" }
def mkCfg (dst ert : String) : Cfg :=
  { bo := .le, fast := true, uuid := [], feat := ⟨none, false, none⟩,
    dsts := [{ name := dst, id := 0, clock := none,
               feat := { totalSize := .int false 64 8, contentSize := .int false 64 8, tsBegin := none, tsEnd := none,
                         discarded := none, seqNum := none, ertId := none, erTs := none },
               pcExtra := [], ercc := none, erts := [{ name := ert, id := 0, sc := none, p := none }] }] }

theorem prefix_overlap_possible :
    ∃ s, s ∈ symbolsOf oA (mkCfg "b_x" "e") ∧ s ∈ symbolsOf oB (mkCfg "x" "e") :=
  ⟨"a_b_x_trace_e", by decide, by decide⟩

#print axioms symbols_prefixed
#print axioms files_prefixed
#print axioms cli_prefix_override
#print axioms prefix_of_common
#print axioms prefixfree_disjoint
#print axioms shorthand_resolves
#print axioms shorthand_target_defined
#print axioms prefix_overlap_possible
end BVM
