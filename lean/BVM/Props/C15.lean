/-
  Props/C15.lean — property C15: the metadata states every configured descriptive attribute in
  well-formed TSDL.

  Proved over Model/Meta.lean (transcription of `_filt_escape_dq` and of the emission tests of
  metadata.j2; compared on every run with the real filter on generated strings and with the parsed
  real metadata):
    * unescape_escape — a TSDL reader recovers exactly the configured string from the literal;
    * escaped_has_no_bare_quote — the escaped text contains no unescaped double quote and no raw
      new-line, so the literal cannot end early or span lines (the CTF 1.8 lexical grammar excludes
      both from s-char);
    * loglevel_always_stated — an event record type with a log level, including level 0, gets its
      `loglevel` line with that value;
    * env_value_forms / range_forms — numbers verbatim, strings quoted and escaped; single values vs
      `lo ... hi` ranges.
  "The metadata parses under the grammar" and "states the configured value of every attribute" are
  established per sample by the check's strict TSDL parser and attribute-by-attribute comparison with
  the configuration objects, not by a theorem about the emitted text as a whole.
-/
import BVM.Model.Meta
namespace BVM

theorem unescape_escape : ∀ l : List Char, unescapeDqL (escapeDqL l) = l := by
  intro l
  fun_induction escapeDqL l <;> simp_all [unescapeDqL]

theorem escaped_has_no_bare_quote : ∀ l : List Char, bareQuoteL (escapeDqL l) = false := by
  intro l
  fun_induction escapeDqL l <;> simp_all [bareQuoteL]

theorem loglevel_always_stated (v : Int) : logLevelLine (some v) = some ("loglevel = " ++ toString v ++ ";") := rfl

theorem loglevel_zero_stated : logLevelLine (some 0) = some "loglevel = 0;" := by decide

theorem env_value_forms (name : String) (v : Int) (s : String) :
    envLine name (.int v) = name ++ " = " ++ toString v ++ ";" ∧
    envLine name (.str s) = name ++ " = \"" ++ escapeDq s ++ "\";" := ⟨rfl, rfl⟩

theorem range_forms (lo hi : Int) :
    rangeStr lo lo = toString lo ∧ (lo ≠ hi → rangeStr lo hi = toString lo ++ " ... " ++ toString hi) := by
  constructor
  · simp [rangeStr]
  · intro h; simp [rangeStr, h]

/-! Non-vacuity -/
example : escapeDqL "a\"b\\c\nd".toList = "a\\\"b\\\\c\\nd".toList := by decide

#print axioms unescape_escape
#print axioms escaped_has_no_bare_quote
#print axioms loglevel_always_stated
#print axioms loglevel_zero_stated
#print axioms env_value_forms
#print axioms range_forms
end BVM
