import BVM.Model.Bits
import BVM.Model.FT
import BVM.Model.Ops
import BVM.Model.Ser
import BVM.Model.Cfg
import BVM.Model.Rt
import BVM.Model.Api
import BVM.Model.Tsdl
import BVM.Model.Meta
import BVM.Proofs.Bits
import BVM.Proofs.Shifts
import BVM.Proofs.Align
import BVM.Proofs.Ser
import BVM.Props.C08
import BVM.Proofs.RtBasic
import BVM.Proofs.RtSimp
import BVM.Proofs.RtRules
import BVM.Proofs.RtFlag
import BVM.Props.C16
import BVM.Proofs.RtDisabled
import BVM.Proofs.RtTw
import BVM.Props.C07
import BVM.Proofs.RtCount
import BVM.Proofs.RtRec
import BVM.Props.C03
import BVM.Props.C04
import BVM.Props.C06
import BVM.Proofs.RtTs
import BVM.Proofs.SizeSer
import BVM.Props.C02
import BVM.Props.C05
import BVM.Props.C17
import BVM.Proofs.Read
import BVM.Proofs.Oib
import BVM.Model.Decode
import BVM.Proofs.RoundTrip
import BVM.Props.C01
import BVM.Props.C14
import BVM.Props.C19
import BVM.Gen.IterSites
import BVM.Props.C13
import BVM.Props.C15
import BVM.Model.Yaml
import BVM.Model.Patch
import BVM.Model.Expand
import BVM.Proofs.KV
import BVM.Proofs.Comb
import BVM.Proofs.Patch
import BVM.Proofs.Expand
import BVM.Props.C12
import BVM.Model.V2
import BVM.Proofs.Fixed
import BVM.Proofs.NoInclude
import BVM.Props.C11
import BVM.Proofs.V2
import BVM.Props.C18
import BVM.Model.Schema
import BVM.Gen.Keywords
import BVM.Gen.Schemas
import BVM.Model.Build
import BVM.Model.Load
import BVM.Proofs.SchemaSem
import BVM.Props.C09
import BVM.Proofs.Terminate
import BVM.Props.C10
import BVM.Proofs.V2Stream
import BVM.Proofs.Bridge
import BVM.Proofs.RoundTripPre
import BVM.Proofs.Plain
import BVM.Proofs.RecordBounds
